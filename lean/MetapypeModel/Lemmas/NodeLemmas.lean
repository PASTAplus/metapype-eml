import MetapypeModel.Model.Validate
/-
  The validation of one node (`Rule.validate_rule`, rule.py): the if/elif chain of `_validate_content` arm by arm, the
  second loop of `_validate_attributes` attribute by attribute, and the node as a whole: the cut at the first crash
  (`cutAtCrash`, and `cutAtCrashP` for events with paths), `validateRule`, the rule lookup `Tables.ruleOf`.
-/
namespace Metapype

/-- the common shape of the arms `floatContent`, `intContent`, `timeContent`, `uriContent`, `yearDateContent` -/
def typedArm (p : String → Bool) (k : ErrKind) : Option String → List Ev
  | some s => if p s then [] else [.err k]
  | none => []

theorem typedArm_nil_iff (p : String → Bool) (k : ErrKind) (c : Option String) :
    typedArm p k c = [] ↔ ∀ s, c = some s → p s = true := by
  cases c with
  | none => simp [typedArm]
  | some s => cases h : p s <;> simp [typedArm, h]

theorem mem_typedArm {p : String → Bool} {k : ErrKind} {c : Option String} {e : Ev} (h : e ∈ typedArm p k c) :
    e = .err k := by
  cases c with
  | none => cases h
  | some s => exact List.mem_singleton.mp (List.mem_ite_nil_left.mp h).2

theorem validateRanged_nil_iff (L : Lexer) (r : String → Bool) (c : Option String) :
    validateRanged L r c = [] ↔ ∀ s, c = some s → L.isFloat s = true ∧ r s = true := by
  cases c with
  | none => simp [validateRanged]
  | some s => cases hf : L.isFloat s <;> simp [validateRanged, hf]

theorem mem_validateRanged {L : Lexer} {r : String → Bool} {c : Option String} {e : Ev} (h : e ∈ validateRanged L r c) :
    e = .err .expectedFloat ∨ e = .err .expectedRange := by
  cases c with
  | none => cases h
  | some s =>
    simp only [validateRanged] at h
    split at h
    · exact Or.inr (List.mem_singleton.mp (List.mem_ite_nil_left.mp h).2)
    · exact Or.inl (List.mem_singleton.mp h)

section
variable (L : Lexer) (M : Bool) (n : Nat) (c : Option String)

@[simp] theorem vcr_emptyContent :
    validateContentRule L M n c "emptyContent" = if c.isSome then [.err .expectedEmpty] else [] := by
  delta validateContentRule
  simp only [↓reduceIte]

@[simp] theorem vcr_floatContent :
    validateContentRule L M n c "floatContent" = typedArm L.isFloat .expectedFloat c := by
  delta validateContentRule
  simp only [String.reduceEq, ↓reduceIte]
  cases c <;> rfl

@[simp] theorem vcr_floatRangeContent_EW :
    validateContentRule L M n c "floatRangeContent_EW" = validateRanged L L.inRangeEW c := by
  delta validateContentRule
  simp only [String.reduceEq, ↓reduceIte]

@[simp] theorem vcr_floatRangeContent_NS :
    validateContentRule L M n c "floatRangeContent_NS" = validateRanged L L.inRangeNS c := by
  delta validateContentRule
  simp only [String.reduceEq, ↓reduceIte]

@[simp] theorem vcr_floatContent_Nonnegative :
    validateContentRule L M n c "floatContent_Nonnegative" = validateRanged L L.nonNeg c := by
  delta validateContentRule
  simp only [String.reduceEq, ↓reduceIte]

@[simp] theorem vcr_intContent :
    validateContentRule L M n c "intContent" = typedArm L.isInt .expectedInt c := by
  delta validateContentRule
  simp only [String.reduceEq, ↓reduceIte]
  cases c <;> rfl

@[simp] theorem vcr_nonEmptyContent :
    validateContentRule L M n c "nonEmptyContent" =
      if (c.isNone || c == some "") && (!M || n == 0) then [.err .expectedNonempty] else [] := by
  delta validateContentRule
  simp only [String.reduceEq, ↓reduceIte]

@[simp] theorem vcr_strContent : validateContentRule L M n c "strContent" = [] := by
  delta validateContentRule
  simp only [String.reduceEq, ↓reduceIte]

@[simp] theorem vcr_timeContent :
    validateContentRule L M n c "timeContent" = typedArm L.isTime .expectedTime c := by
  delta validateContentRule
  simp only [String.reduceEq, ↓reduceIte]
  cases c <;> rfl

@[simp] theorem vcr_uriContent :
    validateContentRule L M n c "uriContent" = typedArm L.isUri .expectedUri c := by
  delta validateContentRule
  simp only [String.reduceEq, ↓reduceIte]
  cases c <;> rfl

@[simp] theorem vcr_yearDateContent :
    validateContentRule L M n c "yearDateContent" = typedArm L.isYearDate .expectedYear c := by
  delta validateContentRule
  simp only [String.reduceEq, ↓reduceIte]
  cases c <;> rfl

@[simp] theorem vcr_anyContent : validateContentRule L M n c "anyContent" = [] := by
  delta validateContentRule
  simp only [String.reduceEq, ↓reduceIte]

end

def attrCheck (spec : List AttrSpec) (kv : String × String) : Option (ErrKind × String) :=
  match attrLookup spec kv.1 with
  | none => some (.attrUnrecognized, kv.1)
  | some a => if !a.values.isEmpty && !(a.values.contains kv.2) then some (.attrEnum, kv.1) else none

theorem validateAttrsDetail_eq (spec : List AttrSpec) (attrs : Dict) :
    validateAttrsDetail spec attrs =
      (spec.filter (fun a => a.required && !(attrs.has a.name))).map (fun a => (ErrKind.attrRequired, a.name)) ++
      attrs.filterMap (attrCheck spec) := rfl

theorem attrCheck_eq_some_iff (spec : List AttrSpec) (kv : String × String) (k : ErrKind) (a : String) :
    attrCheck spec kv = some (k, a) ↔ a = kv.1 ∧
      ((k = .attrUnrecognized ∧ attrLookup spec kv.1 = none) ∨
       (k = .attrEnum ∧ ∃ s, attrLookup spec kv.1 = some s ∧ s.values ≠ [] ∧ kv.2 ∉ s.values)) := by
  -- the three outcomes of the check one by one: not in the spec; in the spec with a value outside its non-empty enumeration;
  -- accepted (both sides false).  The closing `exact`s only turn the equations `(k, a) = …` round.
  unfold attrCheck
  cases attrLookup spec kv.1 with
  | none =>
    simp only [Option.some.injEq, Prod.mk.injEq, reduceCtorEq, false_and, exists_false, and_false, or_false,
      and_true]
    exact ⟨fun h => ⟨h.2.symm, h.1.symm⟩, fun h => ⟨h.2.symm, h.1.symm⟩⟩
  | some s =>
    simp only [reduceCtorEq, and_false, false_or, Option.some.injEq, exists_eq_left']
    split
    · rename_i hc
      simp only [Bool.and_eq_true, Bool.not_eq_eq_eq_not, Bool.not_true, List.isEmpty_eq_false_iff,
        List.contains_eq_mem, decide_eq_false_iff_not] at hc
      simp only [Option.some.injEq, Prod.mk.injEq, hc, not_false_eq_true, ne_eq, and_self, and_true]
      exact ⟨fun h => ⟨h.2.symm, h.1.symm⟩, fun h => ⟨h.2.symm, h.1.symm⟩⟩
    · rename_i hc
      simp only [Bool.and_eq_true, Bool.not_eq_eq_eq_not, Bool.not_true, List.isEmpty_eq_false_iff,
        List.contains_eq_mem, decide_eq_false_iff_not] at hc
      simp only [reduceCtorEq, false_iff, not_and]
      exact fun _ _ h1 h2 => hc ⟨h1, h2⟩

theorem cutAtCrash_eq_nil_iff (l : List Ev) : cutAtCrash l = [] ↔ l = [] := by
  fun_induction cutAtCrash l with
  | case1 => exact Iff.rfl                     -- empty list
  | case2 | case3 => exact ⟨nofun, nofun⟩      -- the head is an error; the head is a crash or a divergence

theorem cutAtCrash_of_errs (l : List Ev) (h : ∀ e ∈ l, ∃ k, e = .err k) : cutAtCrash l = l := by
  fun_induction cutAtCrash l with
  | case1 => rfl                                                            -- empty list
  | case2 k es ih => rw [ih fun e he => h e (List.mem_cons_of_mem _ he)]    -- the head is an error
  | case3 e es hne =>                                                       -- the head is not an error: excluded by `h`
    obtain ⟨k, hk⟩ := h e List.mem_cons_self
    exact (hne k hk).elim

theorem cutAtCrashP_eq_nil_iff : ∀ (l : List PEv), cutAtCrashP l = [] ↔ l = [] := by
  intro l
  fun_induction cutAtCrashP l with
  | case1 => exact Iff.rfl                     -- empty list
  | case2 | case3 => exact ⟨nofun, nofun⟩      -- the head is an error; the head is a crash or a divergence

theorem cutAtCrashP_of_errs (l : List PEv) (h : ∀ e ∈ l, ∃ k, e.2 = .err k) : cutAtCrashP l = l := by
  fun_induction cutAtCrashP l with
  | case1 => rfl                                                            -- empty list
  | case2 p k es ih => rw [ih fun e he => h e (List.mem_cons_of_mem _ he)]  -- the head is an error
  | case3 e es hne =>                                                       -- the head is not an error: excluded by `h`
    obtain ⟨k, hk⟩ := h e List.mem_cons_self
    exact (hne e.1 k (Prod.ext rfl hk)).elim

theorem validateRule_nil_iff (L : Lexer) (mixedRules : List String) (r : Rule) (n : String) (c : Option String) (a : Dict)
    (ks : List String) :
    validateRule L mixedRules r n c a ks = [] ↔
      validateContent L r (isMixed mixedRules r) ks.length c = [] ∧ validateAttrs r.attrs a = [] ∧
      validateChildrenRaw n (isMixed mixedRules r) r.children ks = [] := by
  simp only [validateRule, cutAtCrash_eq_nil_iff, List.append_eq_nil_iff, and_assoc]

theorem validateContent_nKids' (L : Lexer) (r : Rule) (n1 n2 : Nat) (c : Option String) :
    validateContent L r false n1 c = validateContent L r false n2 c := by
  -- the only arm that mentions `nKids` tests `!mixed || nKids == 0`, which computes to `true` when `mixed = false`
  have arm : validateContentRule L false n1 c = validateContentRule L false n2 c := rfl
  unfold validateContent
  rw [arm]

theorem mem_of_ruleOf (T : Tables) (e : String) (r : Rule) (h : T.ruleOf e = some (some r)) : r ∈ T.rules := by
  unfold Tables.ruleOf at h
  split at h
  · cases h
  · simp only [Option.some.injEq] at h
    exact List.mem_of_find?_eq_some h

theorem ruleOf_ne_missing (T : Tables) (h : ∀ m ∈ T.mappings, (T.rules.find? (·.name == m.2)).isSome = true)
    (e : String) : T.ruleOf e ≠ some none := by
  unfold Tables.ruleOf
  split
  · exact nofun
  · rename_i m rn hf
    intro hn
    have := h _ (List.mem_of_find?_eq_some hf)
    rw [Option.some.inj hn] at this
    cases this

end Metapype
