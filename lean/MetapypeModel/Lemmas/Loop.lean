import MetapypeModel.Model.Matcher
import MetapypeModel.Lemmas.LangLemmas
/-
  `Outside nm l`: the cursor `l` is at the end or at a name outside the set `nm`; a list that is a word over `nm` followed
  by a rest that starts outside `nm` is so in one way only (`split_unique`).  Then generic lemmas about the `while`
  combinator `loopW` of `_validate_choice`, which stops when the cursor is outside the names of the alternatives.
-/
namespace Metapype

def Outside (nm : List String) (l : List String) : Prop := ∀ x, l.head? = some x → x ∉ nm

theorem Outside_nil (nm : List String) : Outside nm [] := by intro x h; simp at h

theorem Outside_mono {nm nm' : List String} {l : List String} (h : ∀ x, x ∈ nm' → x ∈ nm) (ho : Outside nm l) :
    Outside nm' l := fun x hx hm => ho x hx (h x hm)

theorem Outside_left {nm nm' : List String} {l : List String} (h : Outside (nm ++ nm') l) : Outside nm l :=
  Outside_mono (fun _ => List.mem_append_left _) h

theorem Outside_right {nm nm' : List String} {l : List String} (h : Outside (nm ++ nm') l) : Outside nm' l :=
  Outside_mono (fun _ => List.mem_append_right _) h

theorem Outside_append_left {nm : List String} {p : String} {pre suf : List String} (h : p ∉ nm) :
    Outside nm ((p :: pre) ++ suf) :=
  fun _ hx => Option.some.inj hx ▸ h

theorem not_Outside {nm l : List String} (h : ¬ Outside nm l) : ∃ x t, l = x :: t ∧ x ∈ nm := by
  cases l with
  | nil => exact absurd (Outside_nil nm) h
  | cons x t =>
    exact ⟨x, t, rfl, Decidable.byContradiction fun hx => h (Outside_append_left (pre := []) (suf := t) hx)⟩

theorem Outside_of_append {nm nm' : List String} {w suf : List String}
    (hw : ∀ x ∈ w, x ∈ nm') (hdisj : ∀ x ∈ nm, x ∉ nm') (hs : Outside nm suf) : Outside nm (w ++ suf) := by
  cases w with
  | nil => exact hs
  | cons y t => exact Outside_append_left fun hmem => hdisj y hmem (hw y List.mem_cons_self)

theorem eq_nil_of_Outside {nm a suf : List String} (ha : ∀ x ∈ a, x ∈ nm) (ho : Outside nm (a ++ suf)) : a = [] := by
  cases a with
  | nil => rfl
  | cons x t => exact absurd (ha x List.mem_cons_self) (ho x rfl)

theorem split_unique {nm : List String} (pre pre' suf suf' : List String) (h : pre ++ suf = pre' ++ suf')
    (h1 : ∀ x ∈ pre, x ∈ nm) (h2 : ∀ x ∈ pre', x ∈ nm) (h3 : Outside nm suf) (h4 : Outside nm suf') :
    pre = pre' ∧ suf = suf' := by
  -- one of the two words is the other followed by `a`; `a` is over `nm` and at the head of a suffix that starts outside it
  rcases List.append_eq_append_iff.mp h with ⟨a, rfl, rfl⟩ | ⟨a, rfl, rfl⟩
  · obtain rfl := eq_nil_of_Outside (fun x hx => h2 x (List.mem_append_right _ hx)) h3
    exact ⟨(List.append_nil _).symm, rfl⟩
  · obtain rfl := eq_nil_of_Outside (fun x hx => h1 x (List.mem_append_right _ hx)) h4
    exact ⟨List.append_nil _, rfl⟩

theorem loopW_stop (nm : List String) (pass : List String → PassRes) (fuel : Nat) (xs : List String)
    (h : Outside nm xs) : loopW nm pass (fuel + 1) xs = ⟨xs, [], 0⟩ := by
  cases xs with
  | nil => rfl
  | cons x t => exact if_neg fun hc => h x rfl (List.contains_iff_mem.mp hc)

theorem loopW_step {nm : List String} (pass : List String → PassRes) (fuel : Nat) {x : String} {t : List String}
    (hx : x ∈ nm) (hl : (pass (x :: t)).rest.length < (x :: t).length) :
    loopW nm pass (fuel + 1) (x :: t) =
      ⟨(loopW nm pass fuel (pass (x :: t)).rest).rest,
       (pass (x :: t)).evs ++ (loopW nm pass fuel (pass (x :: t)).rest).evs,
       (pass (x :: t)).occ + (loopW nm pass fuel (pass (x :: t)).rest).occ⟩ :=
  (if_pos (List.contains_iff_mem.mpr hx)).trans (if_pos hl)

theorem loopW_stuck {nm : List String} (pass : List String → PassRes) (fuel : Nat) {x : String} {t : List String}
    (hx : x ∈ nm) (hl : ¬ (pass (x :: t)).rest.length < (x :: t).length) :
    loopW nm pass (fuel + 1) (x :: t) =
      ⟨(pass (x :: t)).rest, (pass (x :: t)).evs ++ [.diverge], (pass (x :: t)).occ⟩ :=
  (if_pos (List.contains_iff_mem.mpr hx)).trans (if_neg hl)

theorem loopW_once {nm : List String} (pass : List String → PassRes) (fuel : Nat) {p : String} {pt suf : List String}
    {evs : List Ev} {occ : Nat} (hp : p ∈ nm) (hpass : pass (p :: (pt ++ suf)) = ⟨suf, evs, occ⟩) (ho : Outside nm suf) :
    loopW nm pass (fuel + 2) (p :: (pt ++ suf)) = ⟨suf, evs, occ⟩ := by
  have hl : (pass (p :: (pt ++ suf))).rest.length < (p :: (pt ++ suf)).length := by
    rw [hpass]
    simp only [List.length_cons, List.length_append]
    omega
  rw [loopW_step pass (fuel + 1) hp hl, hpass, loopW_stop nm pass fuel suf ho, List.append_nil, Nat.add_zero]

theorem loopW_suffix (nm : List String) (pass : List String → PassRes)
    (hp : ∀ ys, (pass ys).rest <:+ ys) (fuel : Nat) (xs : List String) : (loopW nm pass fuel xs).rest <:+ xs := by
  induction fuel generalizing xs with
  | zero => exact List.suffix_refl xs
  | succ f ih =>
    by_cases ho : Outside nm xs
    · rw [loopW_stop nm pass f xs ho]
      exact List.suffix_refl xs
    · obtain ⟨x, t, rfl, hx⟩ := not_Outside ho
      by_cases hl : (pass (x :: t)).rest.length < (x :: t).length
      · rw [loopW_step pass f hx hl]
        exact List.IsSuffix.trans (ih _) (hp _)
      · rw [loopW_stuck pass f hx hl]
        exact hp _

theorem loopW_prog {nm : List String} (pass : List String → PassRes) (hs : ∀ ys, (pass ys).rest <:+ ys) (fuel : Nat)
    {x : String} {t : List String} (hx : x ∈ nm) (hl : (pass (x :: t)).rest.length < (x :: t).length) :
    (loopW nm pass (fuel + 1) (x :: t)).rest.length < (x :: t).length := by
  rw [loopW_step pass fuel hx hl]
  exact Nat.lt_of_le_of_lt (loopW_suffix nm pass hs fuel _).length_le hl

/-- In particular no event is `.diverge`: with a pass that advances on every name of the choice the fuel `|xs| + 1` is
    never used up, which is the termination argument for the Python `while`. -/
theorem loopW_events (nm : List String) (pass : List String → PassRes) (P : Ev → Prop)
    (hp : ∀ ys, ∀ e ∈ (pass ys).evs, P e)
    (hprog : ∀ x t, x ∈ nm → (pass (x :: t)).rest.length < (x :: t).length) (fuel : Nat) (xs : List String)
    (hf : xs.length < fuel) : ∀ e ∈ (loopW nm pass fuel xs).evs, P e := by
  induction fuel generalizing xs with
  | zero => exact absurd hf (Nat.not_lt_zero _)
  | succ f ih =>
    intro e he
    by_cases ho : Outside nm xs
    · rw [loopW_stop nm pass f xs ho] at he
      cases he
    · obtain ⟨x, t, rfl, hx⟩ := not_Outside ho
      have hl := hprog x t hx
      rw [loopW_step pass f hx hl] at he
      rcases List.mem_append.mp he with he | he
      · exact hp _ e he
      · exact ih _ (Nat.lt_of_lt_of_le hl (Nat.le_of_lt_succ hf)) e he

theorem loopW_sound {A : List String → Prop} (nm : List String) (pass : List String → PassRes)
    (hp : ∀ ys, (pass ys).evs = [] → ∃ pre, ys = pre ++ (pass ys).rest ∧ RepOf true A (pass ys).occ pre)
    (fuel : Nat) (xs : List String) (h : (loopW nm pass fuel xs).evs = []) :
    ∃ pre, xs = pre ++ (loopW nm pass fuel xs).rest ∧ RepOf true A (loopW nm pass fuel xs).occ pre ∧
      Outside nm (loopW nm pass fuel xs).rest := by
  induction fuel generalizing xs with
  | zero => cases h
  | succ f ih =>
    by_cases ho : Outside nm xs
    · rw [loopW_stop nm pass f xs ho]
      exact ⟨[], rfl, rfl, ho⟩
    · obtain ⟨x, t, rfl, hx⟩ := not_Outside ho
      by_cases hl : (pass (x :: t)).rest.length < (x :: t).length
      · rw [loopW_step pass f hx hl] at h ⊢
        obtain ⟨h1, h2⟩ := List.append_eq_nil_iff.mp h
        obtain ⟨p1, hp1, hr1⟩ := hp _ h1
        obtain ⟨p2, hp2, hr2, ho2⟩ := ih _ h2
        exact ⟨p1 ++ p2, by rw [List.append_assoc, ← hp2, ← hp1], RepOf_append _ _ _ _ hr1 hr2, ho2⟩
      · rw [loopW_stuck pass f hx hl] at h
        exact absurd h (by simp)

end Metapype
