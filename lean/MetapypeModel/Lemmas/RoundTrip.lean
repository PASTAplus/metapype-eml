import MetapypeModel.Lemmas.ExportShape
import MetapypeModel.Lemmas.TreeLemmas
import MetapypeModel.Model.NsResolve
/-
  Export → parse → import, composed inside Lean (C07 / C08):
      tree  --toXmlG-->  string  --Den-->  X  --resolveX (lxml's namespace processing)-->  XN  --processElement-->  tree'
  and tree' equals tree up to surrounding white space in content and tail and up to the order of namespace maps.
  This file: the structural part (children, text, tails); the dictionary-level facts of one node are collected in `NodeOK`
  and discharged in Lemmas/RoundTripNode.lean.
-/
namespace Metapype

theorem leadText_collect (ks : List X) : leadText ks = (collect ks).1 := by
  fun_induction collect ks with
  | case1 => rfl                           -- no items
  | case2 s r ih => rw [leadText, ih]      -- the first item is text
  | case3 => rfl                           -- the first item is an element

theorem resolveXL_collect (scope : Dict) (ks : List X) :
    resolveXL scope ks = (collect ks).2.map (fun p => resolveX scope p.1 p.2) := by
  fun_induction collect ks with
  | case1 => rw [resolveXL, List.map_nil]                                                      -- no items
  | case2 s r ih => rw [resolveXL, ih]                                                         -- the first item is text
  | case3 tg as ks' r ih => rw [resolveXL, ih, List.map_cons, resolveX, leadText_collect r]    -- the first item is an element

/-- `attributes` of the imported node: the unqualified entries of `e.attrib`, as a dict -/
def attrsOf (attrib : List (String × String)) : Dict :=
  attrib.foldl (fun d kv => if kv.1.toList.contains '{' then d else d.set kv.1 kv.2) []
/-- `extras` of the imported node: the qualified entries under their prefixed name -/
def extrasOf (ns : Dict) (attrib : List (String × String)) : Dict :=
  attrib.foldl (fun d kv => if kv.1.toList.contains '{' then d.set (formatExtras kv.1 ns) kv.2 else d) []

theorem import_buildElem (ns : Dict) (tg : Str) (as : List (Str × Str)) (text tail : Str) (kids following : List XN) :
    processElement false false [] (buildElem ns tg as text tail kids) following =
      some (.mk "" (String.ofList (splitQName tg).2) (withCommentTails (optS text) kids) (withCommentTails (optS tail) following)
              ((splitQName tg).1.map String.ofList) (attrsOf (attribOf ns as)) (extrasOf ns (attribOf ns as)) ns
              (processKids false false [] ns kids)) := by
  rw [buildElem, processElement]
  rfl

def optStr (x : Option String) : Str := match x with | some s => s.toList | none => []
/-- equal up to surrounding XML white space (absent text ≡ empty text) -/
def wsEq (x y : Option String) : Prop := wsStrip (optStr x) = wsStrip (optStr y)

theorem optStr_optS : ∀ (s : Str), optStr (optS s) = s
  | [] => rfl
  | _ :: _ => String.toList_ofList

mutual
/-- the imported tree against the exported one: namespace maps as maps, content and tails up to surrounding white space,
    ids not at all (XML does not carry them) -/
def RT : Tree → Tree → Prop
  | .mk _ n' c' _ p' a' e' ns' cs', .mk _ n c _ p a e ns cs =>
      n' = n ∧ p' = p ∧ a' = a ∧ e' = e ∧ DictSame ns' ns ∧ wsEq c' c ∧ RTL cs' cs
def RTL : List Tree → List Tree → Prop
  | [], [] => True
  | x :: xs, y :: ys => RT x y ∧ wsEq x.tail y.tail ∧ RTL xs ys
  | _, _ => False
end

structure NodeOK (scope : Dict) (pns : Option Dict) (n : String) (p : Option String) (a e ns : Dict) : Prop where
  name : String.ofList (splitQName (tagOf n p)).2 = n
  pfx : (splitQName (tagOf n p)).1.map String.ofList = p
  same : DictSame (nsmapOf scope (attrList a e ns pns)) ns
  attrs : attrsOf (attribOf (nsmapOf scope (attrList a e ns pns)) (attrList a e ns pns)) = a
  extras : extrasOf (nsmapOf scope (attrList a e ns pns)) (attribOf (nsmapOf scope (attrList a e ns pns)) (attrList a e ns pns)) = e

mutual
def AllOK : Dict → Option Dict → Tree → Prop
  | scope, pns, .mk _ n _ _ p a e ns cs =>
      NodeOK scope pns n p a e ns ∧ AllOKL (nsmapOf scope (attrList a e ns pns)) ns cs
def AllOKL : Dict → Dict → List Tree → Prop
  | _, _, [] => True
  | scope, pns, c :: cs => AllOK scope (some pns) c ∧ AllOKL scope pns cs
end

theorem resolveX_xElemG_isElem (scope : Dict) (t : Tree) (pns : Option Dict) (level : Nat) (tail : Str) :
    ∃ ln pf ns att tx tl ks, resolveX scope (xElemG t pns level) tail = XN.elem ln pf ns att tx tl ks := by
  obtain ⟨tg, as, ks, he⟩ := xElemG_elem t pns level
  rw [he, resolveX, buildElem]
  exact ⟨_, _, _, _, _, _, _, rfl⟩

theorem withCommentTails_pairsG (scope pns : Dict) (level : Nat) (closing : Str) (cs : List Tree) (t : Option String) :
    withCommentTails t ((pairsG pns level closing cs).map (fun p => resolveX scope p.1 p.2)) = t := by
  cases cs with
  | nil => rfl
  | cons c cs =>
    obtain ⟨tg, as, ks, he⟩ := xElemG_elem c (some pns) level
    rw [pairsG, List.map_cons, he, resolveX, buildElem]
    rfl

/-- siblings that follow an element in a parsed exporter output are elements: no comment tails to pick up -/
def NoLeadComment (following : List XN) : Prop := ∀ x : Option String, withCommentTails x following = x

theorem wsEq_optS {s : Str} {x : Option String} (h : wsStrip s = wsStrip (optStr x)) : wsEq (optS s) x := by
  unfold wsEq
  rw [optStr_optS, h]

/-- Importing the resolved parse of the export gives the tree back.  The fields of one node are `NodeOK` (in `AllOK`).  The
    children are read off `pairsG`: each child element comes with the text that follows it, which is its tail between the
    white space the exporter wrote (`sepAfter`), so the tail comes back up to that white space (`wsEq`), and likewise the
    node's text.  `tail` and `following` are arguments because the importer hands an element its tail from outside. -/
theorem imp_ok_both :
    (∀ (t : Tree) (scope : Dict) (pns : Option Dict) (level : Nat) (tail : Str) (following : List XN),
      AllOK scope pns t → NoLeadComment following →
      ∃ t', processElement false false [] (resolveX scope (xElemG t pns level) tail) following = some t' ∧
        RT t' t ∧ t'.tail = optS tail) ∧
    (∀ (cs : List Tree) (scope : Dict) (pns : Dict) (level : Nat) (closing : Str), closing.all isWs = true →
      AllOKL scope pns cs →
      RTL (processKids false false [] scope ((pairsG pns level closing cs).map (fun p => resolveX scope p.1 p.2))) cs) := by
  refine Tree.induct₂ (fun i n c tl p a e ns cs ih scope pns level tail following hok hfol => ?_)
    (fun _ _ _ _ _ _ => trivial)
    (fun c cs ihc ihcs scope pns level closing hcl hok => ?_)
  · rw [AllOK] at hok
    obtain ⟨hnode, hkids⟩ := hok
    obtain ⟨kids, hx, hpairs, htext⟩ := xElemG_children i n c tl p a e ns cs pns level
    rw [hx, resolveX, import_buildElem, leadText_collect, resolveXL_collect, hpairs]
    refine ⟨_, rfl, ?_, hfol _⟩
    rw [RT]
    refine ⟨hnode.name, hnode.pfx, hnode.attrs, hnode.extras, hnode.same, ?_, ih _ ns (level + 1) _ ?_ hkids⟩
    · rw [withCommentTails_pairsG]
      exact wsEq_optS htext
    · cases c with
      | none => exact indentOf_ws level
      | some _ => rfl
  · rw [AllOKL] at hok
    obtain ⟨t', ht', hrt', htail⟩ := ihc scope (some pns) level
      ("\n".toList ++ tailText c ++ sepAfter closing level cs) _ hok.1 (withCommentTails_pairsG scope pns level closing cs)
    simp only [pairsG, List.map_cons, processKids, ht']
    cases t' with
    | mk i' n' c' tl' p' a' e' ns' cs' =>
      rw [RTL]
      refine ⟨hrt', ?_, ihcs scope pns level closing hcl hok.2⟩
      rw [htail]
      exact wsEq_optS (trim_pad "\n".toList (tailText c) _ (by decide) (sepAfter_ws hcl level cs))

theorem imp_ok : ∀ (t : Tree) (scope : Dict) (pns : Option Dict) (level : Nat) (tail : Str) (following : List XN),
    AllOK scope pns t → NoLeadComment following →
    ∃ t', processElement false false [] (resolveX scope (xElemG t pns level) tail) following = some t' ∧
      RT t' t ∧ t'.tail = optS tail := imp_ok_both.1

theorem kids_ok : ∀ (cs : List Tree) (scope : Dict) (pns : Dict) (level : Nat) (closing : Str), closing.all isWs = true →
    AllOKL scope pns cs →
    ∃ ts, processKids false false [] scope ((pairsG pns level closing cs).map (fun p => resolveX scope p.1 p.2)) = ts ∧ RTL ts cs :=
  fun cs scope pns level closing hcl hok => ⟨_, rfl, imp_ok_both.2 cs scope pns level closing hcl hok⟩

end Metapype
