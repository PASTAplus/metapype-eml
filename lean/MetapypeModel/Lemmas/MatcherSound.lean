import MetapypeModel.Lemmas.MatcherBasic
/-
  Soundness of the greedy matcher: if a construct reports nothing, the children it consumed form a
  word of its language.  For a choice this holds whatever its bounds are: a pass that reports
  nothing consumed as many non-empty occurrences as it counted (`pass_sound_rep`), so does the loop
  (`loopW_sound`), and the two checks after the loop are the two bounds in the definition of `Lang`.
-/
namespace Metapype

theorem finishChoice_nil_iff (M : Bool) (mn : Nat) (mx : Option Nat) (occ : Nat) :
    finishChoice M mn mx occ = [] ↔ withinMax occ mx ∧ (M = true ∨ mn ≤ occ) := by
  simp only [finishChoice, List.append_eq_nil_iff, ite_eq_right_iff, reduceCtorEq, imp_false, Bool.not_eq_true,
    exceeds_false_iff]
  cases M <;> simp

mutual
theorem item_sound (M : Bool) : ∀ (s : Spec), wfItem s = true → ∀ (xs rest : List String),
    gItem M s xs = (rest, []) → ∃ pre, xs = pre ++ rest ∧ Lang true M s pre
  | .leaf n mn mx => fun hw xs rest h =>
    have ⟨pre, hp, hl, _⟩ := runLeaf_lang M n mn mx false hw xs rest h
    ⟨pre, hp, hl⟩
  | .choice alts mn mx => fun hw xs rest h => by
    simp only [gItem, Prod.mk.injEq, List.append_eq_nil_iff] at h
    obtain ⟨rfl, h2, h3⟩ := h
    obtain ⟨pre, hp, hr, -⟩ := loopW_sound _ _ (pass_sound_rep M alts (wfItem_choice_alts hw)) _ xs h2
    obtain ⟨hmax, hmin⟩ := (finishChoice_nil_iff M mn mx _).mp h3
    exact ⟨pre, hp, _, hr, hmin, hmax⟩
  | .seq _ => fun hw => by simp [wfItem] at hw
theorem seq_sound (M : Bool) : ∀ (items : List Spec), wfItems items = true → ∀ (xs rest : List String),
    gSeq M items xs = (rest, []) → ∃ pre, xs = pre ++ rest ∧ LangSeq true M items pre
  | [] => fun _ xs rest h => by
    obtain rfl : xs = rest := by simpa [gSeq] using h
    exact ⟨[], rfl, rfl⟩
  | s :: ss => fun hw xs rest h => by
    simp only [wfItems, Bool.and_eq_true] at hw
    simp only [gSeq, Prod.mk.injEq, List.append_eq_nil_iff] at h
    obtain ⟨h1, h2, h3⟩ := h
    obtain ⟨p1, hp1, hl1⟩ := item_sound M s hw.1 xs _ (Prod.ext rfl h2)
    obtain ⟨p2, hp2, hl2⟩ := seq_sound M ss hw.2 _ rest (Prod.ext h1 h3)
    exact ⟨p1 ++ p2, by rw [List.append_assoc, ← hp2, ← hp1], p1, p2, rfl, hl1, hl2⟩
theorem alt_sound (M : Bool) : ∀ (a : Spec), wfAlt a = true → ∀ (x : String) (t rest : List String), x ∈ a.names →
    gAlt M a (x :: t) = (rest, []) → ∃ pre, pre ≠ [] ∧ x :: t = pre ++ rest ∧ Lang true M a pre
  | .leaf n mn mx => fun hw x t rest hx h => by
    obtain rfl : x = n := List.mem_singleton.mp hx
    obtain ⟨pre, hp, hl, hne⟩ := runLeaf_lang M x mn mx true (leafItemOK_of_alt hw) (x :: t) rest h
    exact ⟨pre, hne rfl, hp, hl⟩
  | .seq items => fun hw x t rest hx h => by
    have h : gSeq M items (x :: t) = (rest, []) := h
    obtain ⟨pre, hp, hl⟩ := seq_sound M items hw (x :: t) rest h
    refine ⟨pre, ?_, hp, hl⟩
    -- a sequence with the name at the cursor among its names moves the cursor
    rintro rfl
    have := gSeq_prog M items hw x t hx
    rw [h, hp] at this
    exact Nat.lt_irrefl _ this
  | .choice _ _ _ => fun hw => by cases hw
theorem pass_sound_rep (M : Bool) : ∀ (alts : List Spec), wfAlts alts = true → ∀ (xs : List String),
    (gPass M alts xs).evs = [] →
      ∃ pre, xs = pre ++ (gPass M alts xs).rest ∧
        RepOf true (fun v => LangAlt true M alts v) (gPass M alts xs).occ pre
  | [], _, _, _ => ⟨[], rfl, rfl⟩
  | _ :: _, _, [], _ => by
    rw [gPass_nil_right]
    exact ⟨[], rfl, rfl⟩
  | a :: as, hw, x :: t, h => by
    rw [wfAlts_cons, Bool.and_eq_true] at hw
    by_cases hx : x ∈ a.names
    · rw [gPass_hit_eq M as t hx] at h ⊢
      obtain ⟨h1, h2⟩ := List.append_eq_nil_iff.mp h
      obtain ⟨p1, hne, hp1, hl1⟩ := alt_sound M a hw.1 x t _ hx (Prod.ext rfl h1)
      obtain ⟨p2, hp2, hr2⟩ := pass_sound_rep M as hw.2 _ h2
      refine ⟨p1 ++ p2, by rw [List.append_assoc, ← hp2, ← hp1], ?_⟩
      show RepOf true _ (_ + 1) _
      exact ⟨p1, p2, rfl, Or.inl hl1, fun _ => hne, RepOf_imp id (fun _ => Or.inr) _ _ hr2⟩
    · rw [gPass_miss_eq M as t hx] at h ⊢
      obtain ⟨p, hp, hr⟩ := pass_sound_rep M as hw.2 _ h
      exact ⟨p, hp, RepOf_imp id (fun _ => Or.inr) _ _ hr⟩
end

theorem pass_sound (M : Bool) : ∀ (alts : List Spec), wfAlts alts = true → ∀ (xs : List String),
    (gPass M alts xs).evs = [] →
      ((gPass M alts xs).occ = 0 ∧ (gPass M alts xs).rest = xs) ∨
      ((gPass M alts xs).occ = 1 ∧ ∃ pre, pre ≠ [] ∧ xs = pre ++ (gPass M alts xs).rest ∧ LangAlt true M alts pre) ∨
      2 ≤ (gPass M alts xs).occ := by
  intro alts hw xs h
  obtain ⟨pre, hp, hr⟩ := pass_sound_rep M alts hw xs h
  by_cases hk : (gPass M alts xs).occ ≤ 1
  · rcases RepOf_le_one hr hk with ⟨h0, rfl⟩ | ⟨h1, hl, hne⟩
    · exact Or.inl ⟨h0, hp.symm⟩
    · exact Or.inr (Or.inl ⟨h1, pre, hne, hp, hl⟩)
  · exact Or.inr (Or.inr (Nat.lt_of_not_le hk))

end Metapype
