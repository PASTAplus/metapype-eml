import MetapypeModel.Lemmas.ListLemmas
/-
  Deciding facts about the generated string tables in the kernel.  The kernel has no native strings: every
  test `s = t` re-encodes both literals as UTF-8 and compares byte lists, far dearer than comparing two `Nat`
  literals, which it does natively.  Table facts that need quadratically many comparisons
  (uniqueness of keys, membership of every name of one table in another) are therefore decided on an injective
  `Nat` key, computed once per string, and carried back along injectivity.
-/
namespace Metapype

/-- the UTF-8 bytes of `s` as digits 1…256 of a base-256 numeral (bijective numeration, so no two byte
    lists share a code) -/
def strKey (s : String) : Nat := s.toByteArray.data.toList.foldr (fun b n => n * 256 + b.toNat + 1) 0

theorem foldr_injective {α β : Type} {f : α → β → β} {z : β} (hf : ∀ a b m n, f a m = f b n → a = b ∧ m = n)
    (hz : ∀ a m, f a m ≠ z) : ∀ a b : List α, a.foldr f z = b.foldr f z → a = b
  | [], [], _ => rfl
  | [], y :: ys, h => absurd h.symm (hz y _)
  | x :: xs, [], h => absurd h (hz x _)
  | x :: xs, y :: ys, h => by
    obtain ⟨rfl, h2⟩ := hf _ _ _ _ h
    rw [foldr_injective hf hz xs ys h2]

theorem strKey_injective : Function.Injective strKey := by
  intro s t h
  refine String.toByteArray_inj.mp (ByteArray.ext (Array.ext' (foldr_injective (fun a b m n h => ?_) (fun _ _ => Nat.succ_ne_zero _) _ _ h)))
  -- the byte is the remainder by 256; with it cancelled, so is the factor 256
  have h := Nat.succ.inj h
  have hab : (m * 256 + a.toNat) % 256 = (n * 256 + b.toNat) % 256 := congrArg (· % 256) h
  rw [Nat.mul_add_mod_of_lt a.toNat_lt, Nat.mul_add_mod_of_lt b.toNat_lt] at hab
  rw [hab] at h
  exact ⟨UInt8.toNat_inj.mp hab, Nat.eq_of_mul_eq_mul_right (by decide : 0 < 256) (Nat.add_right_cancel h)⟩

theorem mem_of_strKey_mem {x : String} {l : List String} (h : strKey x ∈ l.map strKey) : x ∈ l := by
  obtain ⟨y, hy, hxy⟩ := List.mem_map.mp h
  exact strKey_injective hxy ▸ hy

theorem nodup_of_strKey_nodup {l : List String} (h : (l.map strKey).Nodup) : l.Nodup := nodup_of_map strKey h

/-- distinctness class by class: equal numbers lie in the same residue class, so the quadratic comparison need only run
    inside each class (for keys, `k % m` is read off the first byte of the string) -/
theorem nodup_of_residues {l : List Nat} (m : Nat) (hm : 0 < m)
    (h : ∀ r < m, (l.filter (fun k => k % m == r)).Nodup) : l.Nodup := by
  rw [List.nodup_iff_count]
  intro a
  have := List.nodup_iff_count.mp (h (a % m) (Nat.mod_lt a hm)) a
  rwa [List.count_filter (by simp)] at this

end Metapype
