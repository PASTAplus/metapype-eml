import MetapypeModel.Model.Prune
import MetapypeModel.Lemmas.TreeLemmas
/-
  Accounting for `prune` (C15): which subtrees leave the tree, in the state they have when they leave it, and why.
  Every node of the original is either kept or lies in exactly one removed subtree (multiset equality of ids, stated with
  `List.count` and as `List.Perm`); the returned list is, up to order, the list of the removed roots with their reasons.
-/
namespace Metapype

/-- `pruneT.mutual_induct` with the cases named and the tests in the form `simp` rewrites with -/
theorem prune_induct (L : Lexer) (T : Tables) (strict : Bool) {P : Tree → Prop} {Q : String → List Tree → Prop}
    (metadata : ∀ i c tl p a e ns cs, P (.mk i "metadata" c tl p a e ns cs))
    (unknown : ∀ i n c tl p a e ns cs, n ≠ "metadata" → (T.ruleOf n).isNone = true → P (.mk i n c tl p a e ns cs))
    (known : ∀ i n c tl p a e ns cs, n ≠ "metadata" → (T.ruleOf n).isNone = false → Q n cs → P (.mk i n c tl p a e ns cs))
    (nil : ∀ pn, Q pn [])
    (notAllowed : ∀ pn c cs, childAllowed T pn c.name = false → Q pn cs → Q pn (c :: cs))
    (discarded : ∀ pn c cs, childAllowed T pn c.name = true → (pruneT L T strict c).1 = none → P c → Q pn cs → Q pn (c :: cs))
    (invalid : ∀ pn c c' cs, childAllowed T pn c.name = true → (pruneT L T strict c).1 = some c' →
      (strict && !(collectNodeT L T c').isEmpty) = true → P c → Q pn cs → Q pn (c :: cs))
    (kept : ∀ pn c c' cs, childAllowed T pn c.name = true → (pruneT L T strict c).1 = some c' →
      (strict && !(collectNodeT L T c').isEmpty) = false → P c → Q pn cs → Q pn (c :: cs)) :
    (∀ t, P t) ∧ ∀ pn cs, Q pn cs :=
  pruneT.mutual_induct L T strict P Q metadata unknown
    (fun i n c tl p a e ns cs hm hk => known i n c tl p a e ns cs hm (Bool.not_eq_true _ ▸ hk))
    nil
    (fun pn c cs ha => notAllowed pn c cs (by simpa using ha))
    (fun pn c cs ha h ihs ihc => discarded pn c cs (by simpa using ha) h ihc ihs)
    (fun pn c cs ha c' h hs ihs ihc => invalid pn c c' cs (by simpa using ha) h hs ihc ihs)
    (fun pn c cs ha c' h hs ihs ihc => kept pn c c' cs (by simpa using ha) h (Bool.not_eq_true _ ▸ hs) ihc ihs)

def keptIds : Option Tree → List String
  | some t => t.ids
  | none => []
def removedIds (l : List (Tree × Reason)) : List String := l.flatMap (fun x => x.1.ids)

@[simp] theorem removedIds_nil : removedIds [] = [] := rfl
@[simp] theorem removedIds_cons (x : Tree × Reason) (l : List (Tree × Reason)) : removedIds (x :: l) = x.1.ids ++ removedIds l :=
  List.flatMap_cons
@[simp] theorem removedIds_append (l m : List (Tree × Reason)) : removedIds (l ++ m) = removedIds l ++ removedIds m :=
  List.flatMap_append

theorem count_account_both (L : Lexer) (T : Tables) (strict : Bool) (x : String) :
    (∀ t : Tree, t.ids.count x = (keptIds (pruneT L T strict t).1).count x + (removedIds (removedT L T strict t)).count x) ∧
    ∀ pn (cs : List Tree), (Tree.idsL cs).count x =
      (Tree.idsL (pruneKids L T strict pn cs).1).count x + (removedIds (removedKids L T strict pn cs)).count x := by
  -- in every case the unfolded goal is the sum of the induction hypotheses with the terms in another order
  apply prune_induct L T strict
  case metadata => intros; simp [pruneT, removedT, keptIds]
  case unknown => intro i n c tl p a e ns cs hm hk; simp [pruneT, removedT, keptIds, hm, hk]
  case known =>
    intro i n c tl p a e ns cs hm hk ih
    simp only [pruneT, removedT, if_neg hm, hk, Bool.false_eq_true, if_false, keptIds, ids_mk, List.count_cons]
    omega
  case nil => intro pn; simp [pruneKids, removedKids]
  case notAllowed =>
    intro pn c cs ha ih
    simp only [pruneKids, removedKids, ha, Bool.not_false, if_true, idsL_cons, removedIds_cons, List.count_append]
    omega
  case discarded =>
    intro pn c cs ha hc ihc ih
    simp only [hc, keptIds, List.count_nil] at ihc
    simp only [pruneKids, removedKids, ha, hc, Bool.not_true, Bool.false_eq_true, if_false, idsL_cons, removedIds_append,
      List.count_append]
    omega
  case invalid =>
    intro pn c c' cs ha hc hs ihc ih
    simp only [hc, keptIds] at ihc
    simp only [pruneKids, removedKids, ha, hc, hs, Bool.not_true, Bool.false_eq_true, if_false, if_true, idsL_cons,
      removedIds_append, removedIds_cons, removedIds_nil, List.append_nil, List.count_append]
    omega
  case kept =>
    intro pn c c' cs ha hc hs ihc ih
    simp only [hc, keptIds] at ihc
    simp only [pruneKids, removedKids, ha, hc, hs, Bool.not_true, Bool.false_eq_true, if_false, idsL_cons, removedIds_append,
      List.append_nil, List.count_append]
    omega

theorem count_accountL (L : Lexer) (T : Tables) (strict : Bool) (x : String) (pn : String) : ∀ (cs : List Tree),
    (Tree.idsL cs).count x = (Tree.idsL (pruneKids L T strict pn cs).1).count x + (removedIds (removedKids L T strict pn cs)).count x :=
  (count_account_both L T strict x).2 pn

def entryOf (x : Tree × Reason) : String × Reason := (x.1.id, x.2)

theorem count_list_both (L : Lexer) (T : Tables) (strict : Bool) (x : String × Reason) :
    (∀ t : Tree, (prunedList L T strict t).count x = ((removedT L T strict t).map entryOf).count x) ∧
    ∀ pn (cs : List Tree), (disallowed T pn cs).count x + (prunedListKids L T strict pn cs).count x =
      ((removedKids L T strict pn cs).map entryOf).count x := by
  -- as in `count_account_both`: unfold, then add up the induction hypotheses
  apply prune_induct L T strict
  case metadata => intros; simp [prunedList, removedT]
  case unknown => intro i n c tl p a e ns cs hm hk; simp [prunedList, removedT, hm, hk, entryOf, Tree.id]
  case known =>
    intro i n c tl p a e ns cs hm hk ih
    simp only [prunedList, removedT, if_neg hm, hk, Bool.false_eq_true, if_false, List.count_append]
    exact ih
  case nil => intro pn; simp [disallowed, prunedListKids, removedKids]
  case notAllowed =>
    intro pn c cs ha ih
    simp only [disallowed, prunedListKids, removedKids, ha, Bool.not_false, if_true, List.filter_cons_of_pos, List.map_cons,
      List.count_cons, entryOf] at ih ⊢
    omega
  case discarded =>
    intro pn c cs ha hc ihc ih
    simp only [disallowed, prunedListKids, removedKids, ha, hc, Bool.not_true, Bool.false_eq_true, if_false,
      List.filter_cons_of_neg, not_false_eq_true, List.map_append, List.count_append] at ih ⊢
    omega
  case invalid =>
    intro pn c c' cs ha hc hs ihc ih
    simp only [disallowed, prunedListKids, removedKids, ha, hc, hs, Bool.not_true, Bool.false_eq_true, if_false, if_true,
      List.filter_cons_of_neg, not_false_eq_true, List.map_append, List.count_append, List.map_cons, List.map_nil, entryOf] at ih ⊢
    omega
  case kept =>
    intro pn c c' cs ha hc hs ihc ih
    simp only [disallowed, prunedListKids, removedKids, ha, hc, hs, Bool.not_true, Bool.false_eq_true, if_false,
      List.filter_cons_of_neg, not_false_eq_true, List.map_append, List.count_append, List.append_nil] at ih ⊢
    omega

theorem count_listL (L : Lexer) (T : Tables) (strict : Bool) (x : String × Reason) (pn : String) : ∀ (cs : List Tree),
    (disallowed T pn cs).count x + (prunedListKids L T strict pn cs).count x = ((removedKids L T strict pn cs).map entryOf).count x :=
  (count_list_both L T strict x).2 pn

end Metapype
