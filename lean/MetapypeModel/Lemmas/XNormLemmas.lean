import MetapypeModel.Model.XNorm
import MetapypeModel.Lemmas.Words
import MetapypeModel.Lemmas.ListLemmas
/-
  Facts about XPath `normalize-space` and the stylesheet transformation of Model/XNorm.lean (C20, XML half).
  The functions on child lists are maps and filters of the functions on nodes (`normXL_eq`, `replXL_eq`, `skelL_eq`,
  `NoNbL_iff`, `attrsOnlyL_eq`); with them every fact about the transformation is an induction on the node (`XD.ind`)
  whose step for the children is a fact about lists.
-/
namespace Metapype

theorem xW_eq (s : List Char) : xW [] s = wordsBy xmlWs s :=
  acc_eq_wordsBy xW (fun _ => rfl) (fun _ _ _ => rfl) s [] (by simp)

theorem xW_normSpace (s : List Char) : xW [] (normSpace s) = xW [] s := by
  simp only [normSpace, xW_eq, wordsBy_joinSp_wordsBy (p := xmlWs) (by decide)]

theorem normSpace_idem (s : List Char) : normSpace (normSpace s) = normSpace s := by
  rw [normSpace, xW_normSpace, ← normSpace]

theorem normSpace_mem (s : List Char) (c : Char) (h : c ∈ normSpace s) : c = ' ' ∨ c ∈ s := by
  rw [normSpace, xW_eq] at h
  refine (joinSp_mem c _ h).imp_right fun ⟨w, hw, hc⟩ => ?_
  exact (mem_of_mem_splitBy (List.mem_filter.mp hw).1 hc).1

theorem XD.ind {P : XD → Prop} (elem : ∀ n a ks, (∀ k ∈ ks, P k) → P (.elem n a ks))
    (text : ∀ s, P (.text s)) (other : ∀ s, P (.other s)) (t : XD) : P t :=
  XD.rec (motive_1 := P) (motive_2 := fun ks => ∀ k ∈ ks, P k) elem text other
    (fun _ h => nomatch h) (fun _ _ hk hks _ h => (List.mem_cons.mp h).elim (· ▸ hk) (hks _)) t

/-- a text node the stylesheet does not create (`xsl:value-of` of an empty string) -/
def XD.isEmptyText : XD → Bool
  | .text [] => true
  | _ => false

theorem normXL_eq (prot : List String) (ip : Bool) (ks : List XD) :
    normXL prot ip ks = (ks.map (normX prot ip)).filter (fun k => ip || !k.isEmptyText) := by
  induction ks with
  | nil => rfl
  | cons k ks ih =>
    rw [List.map_cons, List.filter_cons, ← ih]
    cases k with
    | text s =>
      cases ip with
      | true => simp [normXL, normX]
      | false => cases he : normSpace s <;> simp [normXL, normX, he, XD.isEmptyText]
    | elem n a ks' => simp [normXL, XD.isEmptyText, normX]
    | other s => simp [normXL, XD.isEmptyText, normX]

theorem mem_normXL {prot : List String} {ip : Bool} {ks : List XD} {x : XD} (h : x ∈ normXL prot ip ks) :
    ∃ k ∈ ks, x = normX prot ip k := by
  rw [normXL_eq] at h
  obtain ⟨k, hk, e⟩ := List.mem_map.mp (List.mem_filter.mp h).1
  exact ⟨k, hk, e.symm⟩

theorem replXL_eq (ks : List XD) : replXL ks = ks.map replX := by
  induction ks with
  | nil => rfl
  | cons k ks ih => rw [replXL, ih, List.map_cons]

theorem skelL_eq (ks : List XD) : skelL ks = ks.filterMap skel := by
  induction ks with
  | nil => simp only [skelL, List.filterMap_nil]
  | cons k ks ih => cases k <;> simp only [skelL, ih, List.filterMap_cons, skel]

theorem normXL_idem_of (prot : List String) (ip : Bool) (ks : List XD)
    (h : ∀ k ∈ ks, normX prot ip (normX prot ip k) = normX prot ip k) :
    normXL prot ip (normXL prot ip ks) = normXL prot ip ks := by
  -- what survives the filter is a normalised child, which normalising again leaves alone
  simp only [normXL_eq]
  rw [List.map_congr_left (g := id), List.map_id, List.filter_filter]
  · simp
  · intro x hx
    obtain ⟨k, hk, rfl⟩ := List.mem_map.mp (List.mem_filter.mp hx).1
    exact h k hk

theorem normX_idem (prot : List String) (ip : Bool) (t : XD) : normX prot ip (normX prot ip t) = normX prot ip t := by
  induction t using XD.ind generalizing ip with
  | elem n a ks ih => simp only [normX, List.map_map, Function.comp_def, normSpace_idem, normXL_idem_of prot _ ks (fun k hk => ih k hk _)]
  | text s => cases ip <;> simp [normX, normSpace_idem]
  | other s => rfl

theorem normXL_idem (prot : List String) : ∀ (ip : Bool) (ks : List XD), normXL prot ip (normXL prot ip ks) = normXL prot ip ks :=
  fun ip ks => normXL_idem_of prot ip ks (fun k _ => normX_idem prot ip k)

/-- what the stylesheet drops is an empty text, which has no skeleton anyway -/
theorem skel_kept (b : Bool) (x : XD) : (if (b || !x.isEmptyText) = true then skel x else none) = skel x := by
  cases x with
  | elem n a ks => exact if_pos (Bool.or_true b)
  | text s => exact ite_self none
  | other s => exact ite_self none

theorem skel_normX (prot : List String) (ip : Bool) (t : XD) : skel (normX prot ip t) = skel t := by
  induction t using XD.ind generalizing ip with
  | elem n a ks ih =>
    simp only [normX, skel, List.map_map]
    rw [skelL_eq, skelL_eq, normXL_eq, List.filterMap_filter, funext (skel_kept _), List.filterMap_map]
    congr 2
    exact filterMap_congr_mem fun k hk => ih k hk _
  | text s => rfl
  | other s => rfl

mutual
/-- what `normX` does below a protected element (`normX_protected`) -/
def attrsOnly : XD → XD
  | .elem n a ks => .elem n (a.map (fun kv => (kv.1, normSpace kv.2))) (attrsOnlyL ks)
  | t => t
def attrsOnlyL : List XD → List XD
  | [] => []
  | k :: ks => attrsOnly k :: attrsOnlyL ks
end

theorem attrsOnlyL_eq (ks : List XD) : attrsOnlyL ks = ks.map attrsOnly := by
  induction ks with
  | nil => rfl
  | cons k ks ih => rw [attrsOnlyL, ih, List.map_cons]

theorem normXL_true (prot : List String) (ks : List XD) : normXL prot true ks = ks.map (normX prot true) := by
  rw [normXL_eq]
  exact List.filter_eq_self.mpr fun _ _ => rfl

theorem normX_protected (prot : List String) (t : XD) : normX prot true t = attrsOnly t := by
  induction t using XD.ind with
  | elem n a ks ih => rw [normX, attrsOnly, Bool.true_or, normXL_true, attrsOnlyL_eq, List.map_congr_left ih]
  | text s => rfl
  | other s => rfl

theorem normXL_protected (prot : List String) (ks : List XD) : normXL prot true ks = attrsOnlyL ks := by
  rw [normXL_true, attrsOnlyL_eq, List.map_congr_left fun k _ => normX_protected prot k]

theorem skel_replX (t : XD) : skel (replX t) = skel t := by
  induction t using XD.ind with
  | elem n a ks ih =>
    simp only [replX, skel, List.map_map]
    rw [skelL_eq, skelL_eq, replXL_eq, List.filterMap_map]
    congr 2
    exact filterMap_congr_mem ih
  | text s => rfl
  | other s => rfl

mutual
def NoNb : XD → Prop
  | .elem _ a ks => (∀ kv ∈ a, nbsp ∉ kv.2) ∧ NoNbL ks
  | .text s => nbsp ∉ s
  | .other _ => True
def NoNbL : List XD → Prop
  | [] => True
  | k :: ks => NoNb k ∧ NoNbL ks
end

theorem NoNbL_iff (ks : List XD) : NoNbL ks ↔ ∀ k ∈ ks, NoNb k := by
  induction ks with
  | nil => simp [NoNbL]
  | cons k ks ih => simp only [NoNbL, ih, List.forall_mem_cons]

theorem replNbsp_no (s : List Char) : nbsp ∉ replNbsp s := by
  intro h
  simp only [replNbsp, List.mem_map] at h
  obtain ⟨c, _, hc⟩ := h
  by_cases e : c = nbsp
  · rw [if_pos e] at hc
    exact absurd hc (by decide)
  · rw [if_neg e] at hc
    exact e hc

theorem replNbsp_fix (s : List Char) (h : nbsp ∉ s) : replNbsp s = s := by
  rw [replNbsp, List.map_congr_left (g := id), List.map_id]
  exact fun c hc => if_neg fun e : c = nbsp => h (e ▸ hc)

theorem NoNb_replX (t : XD) : NoNb (replX t) := by
  induction t using XD.ind with
  | elem n a ks ih =>
    simp only [replX, NoNb, NoNbL_iff, replXL_eq, List.forall_mem_map]
    exact ⟨fun _ _ => replNbsp_no _, ih⟩
  | text s => exact replNbsp_no s
  | other s => trivial

theorem NoNbL_replXL : ∀ (ks : List XD), NoNbL (replXL ks) := by
  intro ks
  simp only [NoNbL_iff, replXL_eq, List.forall_mem_map]
  exact fun k _ => NoNb_replX k

theorem replX_fix (t : XD) : NoNb t → replX t = t := by
  induction t using XD.ind with
  | elem n a ks ih =>
    intro h
    simp only [NoNb, NoNbL_iff] at h
    rw [replX, replXL_eq, List.map_congr_left (g := id) fun k hk => ih k hk (h.2 k hk), List.map_id,
      List.map_congr_left (g := id) fun kv hkv => by rw [replNbsp_fix _ (h.1 kv hkv)]; rfl, List.map_id]
  | text s => exact fun h => congrArg XD.text (replNbsp_fix s h)
  | other s => exact fun _ => rfl

theorem replXL_fix : ∀ (ks : List XD), NoNbL ks → replXL ks = ks := by
  intro ks h
  rw [NoNbL_iff] at h
  rw [replXL_eq, List.map_congr_left (g := id) fun k hk => replX_fix k (h k hk), List.map_id]

theorem normSpace_noNb (s : List Char) (h : nbsp ∉ s) : nbsp ∉ normSpace s := by
  intro hm
  rcases normSpace_mem s nbsp hm with e | e
  · exact absurd e (by decide)
  · exact h e

theorem NoNb_normX (prot : List String) (ip : Bool) (t : XD) : NoNb t → NoNb (normX prot ip t) := by
  induction t using XD.ind generalizing ip with
  | elem n a ks ih =>
    intro h
    simp only [NoNb, NoNbL_iff] at h
    simp only [normX, NoNb, NoNbL_iff, List.forall_mem_map]
    refine ⟨fun kv hkv => normSpace_noNb _ (h.1 kv hkv), fun x hx => ?_⟩
    obtain ⟨k, hk, rfl⟩ := mem_normXL hx
    exact ih k hk _ (h.2 k hk)
  | text s =>
    intro h
    cases ip
    · exact normSpace_noNb s h
    · exact h
  | other s => exact fun _ => trivial

theorem NoNbL_normXL (prot : List String) : ∀ (ip : Bool) (ks : List XD), NoNbL ks → NoNbL (normXL prot ip ks) := by
  intro ip ks h
  rw [NoNbL_iff] at h ⊢
  intro x hx
  obtain ⟨k, hk, rfl⟩ := mem_normXL hx
  exact NoNb_normX prot ip k (h k hk)

end Metapype
