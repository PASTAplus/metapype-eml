import MetapypeModel.Model.Matcher
import MetapypeModel.Lemmas.Restore
/-
  `Rule.child_insert_index` (rule.py:202-227): `idxOf` (Python's `list.index`, core's `List.idxOf?`), the rank it
  induces, and the scan `childInsertIndexAux`, which finds the position at which `insBy` inserts.
-/
namespace Metapype

theorem idxOf_eq_idxOf? (l : List String) (x : String) : idxOf l x = l.idxOf? x := by
  induction l with
  | nil => rfl
  | cons y ys ih =>
    rw [idxOf, List.idxOf?_cons, ih]
    simp only [beq_iff_eq]

theorem idxOf_none_iff (l : List String) (x : String) : idxOf l x = none ↔ x ∉ l := by
  rw [idxOf_eq_idxOf?, List.idxOf?_eq_none_iff]

theorem idxOf_some_of_mem (l : List String) (x : String) (h : x ∈ l) : ∃ r, idxOf l x = some r :=
  Option.ne_none_iff_exists'.mp fun hn => (idxOf_none_iff l x).mp hn h

/-- the rank used by `child_insert_index`: position in the rule's flattened child names -/
def rankIn (flat : List String) (x : String) : Nat := (idxOf flat x).getD 0

theorem rankIn_cons_self (y : String) (ys : List String) : rankIn (y :: ys) y = 0 := by
  simp [rankIn, idxOf]

theorem rankIn_cons_of_mem {y x : String} {ys : List String} (hne : y ≠ x) (hx : x ∈ ys) :
    rankIn (y :: ys) x = rankIn ys x + 1 := by
  obtain ⟨r, hr⟩ := idxOf_some_of_mem ys x hx
  simp [rankIn, idxOf, hne, hr]

theorem rankIn_pairwise (l : List String) (hnd : l.Nodup) : l.Pairwise (fun a b => rankIn l a < rankIn l b) := by
  induction l with
  | nil => exact List.Pairwise.nil
  | cons y ys ih =>
    obtain ⟨hy, hys⟩ := List.nodup_cons.mp hnd
    have hne : ∀ b ∈ ys, y ≠ b := fun b hb e => hy (e ▸ hb)
    refine List.Pairwise.cons (fun b hb => ?_) ((ih hys).imp_of_mem fun ha hb hab => ?_)
    · rw [rankIn_cons_self, rankIn_cons_of_mem (hne b hb) hb]
      exact Nat.succ_pos _
    · rw [rankIn_cons_of_mem (hne _ ha) ha, rankIn_cons_of_mem (hne _ hb) hb]
      exact Nat.succ_lt_succ hab

/-- Python's `list.insert(i, c)` for `i ≤ len` -/
def insAt (c : String) : Nat → List String → List String
  | 0, xs => c :: xs
  | _ + 1, [] => [c]
  | i + 1, x :: xs => x :: insAt c i xs

theorem insAt_split (c : String) (j : Nat) (xs : List String) (h : j ≤ xs.length) :
    ∃ u v, xs = u ++ v ∧ insAt c j xs = u ++ c :: v := by
  fun_induction insAt c j xs with
  | case1 xs => exact ⟨[], xs, rfl, rfl⟩                   -- position 0
  | case2 j => exact absurd h (Nat.not_succ_le_zero j)   -- position past the end of the list
  | case3 j x xs ih =>                                   -- position j + 1 in x :: xs
    obtain ⟨u, v, h1, h2⟩ := ih (Nat.le_of_succ_le_succ h)
    exact ⟨x :: u, v, congrArg (x :: ·) h1, congrArg (x :: ·) h2⟩

/-- `childInsertIndexAux.induct_unfolding` with the cases named: every child passed; the head is not a child name of the rule
    (`list.index` raises); the head ranks above `r` (insert here); the head ranks at most `r` (go on) -/
theorem scan_induct (flat : List String) (r : Nat) {motive : List String → Nat → InsertRes → Prop}
    (nil : ∀ k, motive [] k (.ok k))
    (unknown : ∀ x xs k, idxOf flat x = none → motive (x :: xs) k .crash)
    (here : ∀ x xs k rx, idxOf flat x = some rx → r < rx → motive (x :: xs) k (.ok k))
    (next : ∀ x xs k rx, idxOf flat x = some rx → ¬ r < rx → motive xs (k + 1) (childInsertIndexAux flat r xs (k + 1)) →
      motive (x :: xs) k (childInsertIndexAux flat r xs (k + 1)))
    (xs : List String) (k : Nat) : motive xs k (childInsertIndexAux flat r xs k) :=
  childInsertIndexAux.induct_unfolding flat r motive nil unknown here next xs k

theorem scan_ne_notAllowed (flat : List String) (r : Nat) (xs : List String) (k : Nat) :
    childInsertIndexAux flat r xs k ≠ .notAllowed := by
  induction xs, k using scan_induct flat r with
  | nil | unknown | here => exact fun h => nomatch h
  | next _ _ _ _ _ _ ih => exact ih

theorem scan_ok (flat : List String) (r : Nat) (xs : List String) (k i : Nat)
    (h : childInsertIndexAux flat r xs k = .ok i) :
    ∃ j, i = k + j ∧ j ≤ xs.length ∧
      (∀ m, m < j → ∃ rx, (xs[m]?).bind (idxOf flat) = some rx ∧ rx ≤ r) ∧
      (j < xs.length → ∃ rx, (xs[j]?).bind (idxOf flat) = some rx ∧ r < rx) := by
  induction xs, k using scan_induct flat r with
  | nil k =>
    cases h
    exact ⟨0, rfl, Nat.le_refl _, fun _ hm => absurd hm (Nat.not_lt_zero _), fun hl => absurd hl (Nat.not_lt_zero _)⟩
  | unknown => cases h
  | here x xs k rx hx hlt =>
    cases h
    exact ⟨0, rfl, Nat.zero_le _, fun _ hm => absurd hm (Nat.not_lt_zero _), fun _ => ⟨rx, hx, hlt⟩⟩
  | next x xs k rx hx hlt ih =>
    obtain ⟨j, rfl, hj, h1, h2⟩ := ih h
    refine ⟨j + 1, by omega, Nat.succ_le_succ hj, fun m hm => ?_, fun hl => ?_⟩
    · cases m with
      | zero => exact ⟨rx, hx, Nat.le_of_not_lt hlt⟩
      | succ m => exact h1 m (Nat.lt_of_succ_lt_succ hm)
    · exact h2 (Nat.lt_of_succ_lt_succ hl)

theorem scan_insBy (flat : List String) (c : String) (r : Nat) (hr : idxOf flat c = some r) (xs : List String) (k : Nat)
    (h : ∀ x ∈ xs, x ∈ flat) :
    ∃ i, childInsertIndexAux flat r xs k = .ok (k + i) ∧ i ≤ xs.length ∧ insAt c i xs = insBy (rankIn flat) c xs := by
  have hrc : rankIn flat c = r := by rw [rankIn, hr]; rfl
  induction xs, k using scan_induct flat r with
  | nil k => exact ⟨0, rfl, Nat.le_refl _, rfl⟩
  | unknown x xs k hx => exact absurd (h x List.mem_cons_self) ((idxOf_none_iff flat x).mp hx)
  | here x xs k rx hx hlt =>
    refine ⟨0, rfl, Nat.zero_le _, ?_⟩
    rw [insBy, hrc, rankIn, hx, Option.getD_some, if_pos hlt, insAt]
  | next x xs k rx hx hlt ih =>
    obtain ⟨i, h1, h2, h3⟩ := ih fun y hy => h y (List.mem_cons_of_mem _ hy)
    refine ⟨i + 1, by rw [h1, Nat.add_assoc, Nat.add_comm 1 i], Nat.succ_le_succ h2, ?_⟩
    rw [insBy, hrc, rankIn, hx, Option.getD_some, if_neg hlt, insAt, h3]

end Metapype
