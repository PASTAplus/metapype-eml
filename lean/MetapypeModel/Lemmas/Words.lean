import MetapypeModel.Lemmas.Split
import MetapypeModel.Model.Import
/-
  Words of a string in the sense of Python's `str.split()`: the maximal runs of characters that are not white space
  (`wsWords`; C20, "text normalisation keeps the words and their order"), and the inner collapsing of the XML importer
  (`" ".join(text.split())`, C08): the two readings of `str.split()` in the model agree, the words of a collapsed text are
  the words of the text, and collapsing is idempotent.
-/
namespace Metapype

/-- `cur` is the word being read -/
def wsW : List Char → List Char → List (List Char)
  | cur, [] => if cur = [] then [] else [cur]
  | cur, c :: cs =>
    if pyIsSpace c then (if cur = [] then wsW [] cs else cur :: wsW [] cs)
    else wsW (cur ++ [c]) cs

/-- `s.split()` -/
def wsWords (s : List Char) : List (List Char) := wsW [] s

theorem wsWords_eq (s : List Char) : wsWords s = wordsBy pyIsSpace s :=
  acc_eq_wordsBy wsW (fun _ => rfl) (fun _ _ _ => rfl) s [] (by simp)

theorem space_isSpace : pyIsSpace ' ' = true := by decide
theorem nbsp_isSpace : pyIsSpace nbsp = true := by decide

theorem wsWords_pyStrip (s : List Char) : wsWords (pyStrip s) = wsWords s := by
  rw [wsWords_eq, wsWords_eq, pyStrip_eq, wordsBy_trim]

theorem wsWords_replNbsp (s : List Char) : wsWords (replNbsp s) = wsWords s := by
  rw [wsWords_eq, wsWords_eq, wordsBy, wordsBy, replNbsp, splitBy_map]
  · intro c
    by_cases hc : c = nbsp
    · rw [if_pos hc, hc, space_isSpace, nbsp_isSpace]
    · rw [if_neg hc]
  · intro c hc
    exact if_neg fun e => by rw [e, nbsp_isSpace] at hc; cases hc

theorem wsWords_nil_iff (s : List Char) : wsWords s = [] ↔ s.all pyIsSpace = true := by
  rw [wsWords_eq, wordsBy_eq_nil_iff]

theorem flatMap_strip_filter (ps : List (List Char)) :
    ((ps.map pyStrip).filter (fun w => !w.isEmpty)).flatMap wsWords = ps.flatMap wsWords := by
  induction ps with
  | nil => rfl
  | cons p ps ih =>
    -- a piece has the words of its trimmed form: none if that is empty
    rw [List.map_cons, List.filter_cons, List.flatMap_cons, ← ih, ← wsWords_pyStrip p]
    cases pyStrip p <;> rfl

theorem wsWords_normalizeText (s : List Char) : wsWords (normalizeText s) = wsWords s := by
  have hj : ∀ ws, wsWords (joinSp ws) = ws.flatMap wsWords := fun ws => by
    rw [wsWords_eq, wordsBy_joinSp_flatMap space_isSpace, funext wsWords_eq]
  unfold normalizeText normWords
  rw [hj, flatMap_strip_filter, ← hj, joinSp_splitSp, wsWords_replNbsp]

theorem splitWs_eq (s : List Char) : splitWs s = splitBy pyIsSpace s := by
  induction s with
  | nil => rfl
  | cons c s ih =>
    simp only [splitWs, splitBy, ih]
    rfl

theorem pyWordsOf_eq (s : List Char) : pyWordsOf s = wsWords s := by
  rw [wsWords_eq, pyWordsOf, splitWs_eq, wordsBy]

theorem wsWords_clean (s : List Char) : ∀ w ∈ wsWords s, w ≠ [] ∧ ∀ c ∈ w, pyIsSpace c = false := by
  rw [wsWords_eq]
  exact fun w hw => wordsBy_clean hw

theorem wsWords_collapseWs (s : List Char) : wsWords (collapseWs s) = wsWords s := by
  simp only [collapseWs, pyWordsOf_eq, wsWords_eq, wordsBy_joinSp_wordsBy space_isSpace]

theorem collapseWs_idem (s : List Char) : collapseWs (collapseWs s) = collapseWs s := by
  simp only [collapseWs, pyWordsOf_eq, wsWords_eq, wordsBy_joinSp_wordsBy space_isSpace]

end Metapype
