import MetapypeModel.Lemmas.ExpandIds
import MetapypeModel.Lemmas.MatcherTop
import MetapypeModel.Lemmas.NodeLemmas
/-
  Reference expansion and validity (C16): subtrees free of `references` (`NoRefsL`), the child names of a node after
  substitution (`substNames`), why a child sequence in the language of the node's rule is still in it afterwards
  (`Lang_substNames`), and whole-tree validation as a recursive predicate (`OkT`) that copies preserve.
-/
namespace Metapype

mutual
def NoRefsL : List Tree → Prop
  | [] => True
  | .mk _ n _ _ _ _ _ _ ks :: cs => n ≠ "references" ∧ NoRefsL ks ∧ NoRefsL cs
end

theorem freshCopyL_norefs (u : Nat → String) (cs : List Tree) : ∀ (s : Nat), NoRefsL cs → NoRefsL (freshCopyL u cs s).1 := by
  induction cs using Tree.inductL with
  | nil => intro s _; simp [freshCopyL, NoRefsL]
  | cons i n c tl p a e ns ks cs ihk ihc =>
    intro s h
    simp only [NoRefsL] at h
    simp only [freshCopyL, freshCopy, NoRefsL]
    exact ⟨h.1, ihk _ h.2.1, ihc _ h.2.2⟩

theorem freshCopy_norefs (u : Nat → String) : ∀ (t : Tree) (s : Nat), t.name ≠ "references" → NoRefsL t.children →
    (freshCopy u t s).1.name ≠ "references" ∧ NoRefsL (freshCopy u t s).1.children := by
  intro t s hn hc
  cases t
  exact ⟨hn, freshCopyL_norefs u _ (s + 1) hc⟩

theorem NoRefsL_append {a b : List Tree} (ha : NoRefsL a) (hb : NoRefsL b) : NoRefsL (a ++ b) := by
  induction a using Tree.inductL with
  | nil => exact hb
  | cons i n c tl p x e ns ks a _ ih =>
    simp only [NoRefsL] at ha
    simp only [List.cons_append, NoRefsL]
    exact ⟨ha.1, ha.2.1, ih ha.2.2⟩

theorem refKids_norefs (ids : List (String × Tree)) (hsrc : ∀ k t, lookupId ids k = some t → NoRefsL t.children)
    (c : Option String) : NoRefsL (refKids ids c) := by
  unfold refKids
  split
  · next t h =>
    obtain ⟨k, -, hk⟩ := Option.bind_eq_some_iff.mp h
    exact hsrc k t hk
  · simp [NoRefsL]

theorem substL_norefs (u : Nat → String) (ids : List (String × Tree))
    (hsrc : ∀ k t, lookupId ids k = some t → NoRefsL t.children) (cs : List Tree) : ∀ (s : Nat),
    NoRefsL (substL u ids cs s).1 := by
  induction cs using Tree.inductL with
  | nil => intro s; simp [substL, NoRefsL]
  | cons i n c tl p a e ns ks cs ihk ihc =>
    intro s
    by_cases hn : n = "references"
    · subst hn
      simp only [substL_ref]
      exact NoRefsL_append (freshCopyL_norefs u _ s (refKids_norefs ids hsrc c)) (ihc _)
    · simp only [substL_other u ids hn, NoRefsL]
      exact ⟨hn, ihk s, ihc _⟩

theorem substL_unchanged (u : Nat → String) (ids : List (String × Tree)) (cs : List Tree) : ∀ (s : Nat),
    NoRefsL cs → substL u ids cs s = (cs, s) := by
  induction cs using Tree.inductL with
  | nil => intro s _; rfl
  | cons i n c tl p a e ns ks cs ihk ihc =>
    intro s h
    simp only [NoRefsL] at h
    simp only [substL_other u ids h.1, ihk s h.2.1, ihc s h.2.2]

theorem NoRefsL_names {cs : List Tree} (h : NoRefsL cs) : "references" ∉ cs.map Tree.name := by
  induction cs with
  | nil => simp
  | cons x cs ih =>
    cases x
    simp only [NoRefsL] at h
    simp only [List.map_cons, Tree.name, List.mem_cons, not_or]
    exact ⟨Ne.symm h.1, ih h.2.2⟩

theorem freshCopyL_names (u : Nat → String) (cs : List Tree) : ∀ (s : Nat), (freshCopyL u cs s).1.map Tree.name = cs.map Tree.name := by
  induction cs with
  | nil => intro s; rfl
  | cons c cs ih =>
    intro s
    cases c
    simp only [freshCopyL, freshCopy, List.map_cons, Tree.name, ih]

def substNames (ids : List (String × Tree)) (cs : List Tree) : List String :=
  cs.flatMap fun x => if x.name = "references" then (refKids ids x.content).map Tree.name else [x.name]

/- Stated on `.mk`: with `x.name` under the `if`, unfolding `Tree.name` rewrites the condition but not its `Decidable`
   instance, and `if_pos`/`if_neg` do not apply. -/
theorem substNames_cons (ids : List (String × Tree)) (i n : String) (c tl p : Option String) (a e ns : Dict) (ks cs : List Tree) :
    substNames ids (.mk i n c tl p a e ns ks :: cs) =
      (if n = "references" then (refKids ids c).map Tree.name else [n]) ++ substNames ids cs :=
  List.flatMap_cons

theorem substNames_append (ids : List (String × Tree)) (as bs : List Tree) :
    substNames ids (as ++ bs) = substNames ids as ++ substNames ids bs :=
  List.flatMap_append

theorem substNames_cons_ref (ids : List (String × Tree)) {x : Tree} (hx : x.name = "references") (cs : List Tree) :
    substNames ids (x :: cs) = (refKids ids x.content).map Tree.name ++ substNames ids cs := by
  rw [substNames, List.flatMap_cons, if_pos hx]
  rfl

theorem substL_names (u : Nat → String) (ids : List (String × Tree)) (cs : List Tree) : ∀ (s : Nat),
    (substL u ids cs s).1.map Tree.name = substNames ids cs := by
  induction cs with
  | nil => intro s; rfl
  | cons x cs ih =>
    intro s
    obtain ⟨i, n, c, tl, p, a, e, ns, ks⟩ := x
    rw [substNames_cons]
    by_cases hn : n = "references"
    · subst hn
      rw [if_pos rfl]
      simp only [substL_ref, List.map_append, freshCopyL_names, ih]
    · rw [if_neg hn]
      simp only [substL_other u ids hn, List.map_cons, ih, Tree.name, List.singleton_append]

theorem substNames_no_refs {ids : List (String × Tree)} {cs : List Tree} (h : "references" ∉ cs.map Tree.name) :
    substNames ids cs = cs.map Tree.name := by
  rw [substNames, List.flatMap_def, List.map_congr_left (g := fun x => [x.name]), ← List.flatMap_def, ← List.map_eq_flatMap]
  exact fun x hx => if_neg fun hn => h (List.mem_map.mpr ⟨x, hx, hn⟩)

theorem mem_namesL_of_leaf {n : String} {mn : Nat} {mx : Option Nat} {as : List Spec} (h : Spec.leaf n mn mx ∈ as) :
    n ∈ Spec.namesL as := by
  induction as with
  | nil => cases h
  | cons b bs ih =>
    rw [Spec.namesL, List.mem_append]
    rcases List.mem_cons.mp h with rfl | h
    · exact Or.inl (List.mem_singleton_self n)
    · exact Or.inr (ih h)

/-- the names of the alternatives are pairwise distinct, so a word that contains `x` can only come from the alternative
    `leaf x`, whose only word is `[x]` -/
theorem LangAlt_leaf_alone {M : Bool} {x : String} {w : List String} {alts : List Spec} (hin : x ∈ w)
    (hnd : (Spec.namesL alts).Nodup) (href : Spec.leaf x 1 (some 1) ∈ alts) (hla : LangAlt true M alts w) : w = [x] := by
  induction alts with
  | nil => cases href
  | cons a as ih =>
    simp only [Spec.namesL] at hnd
    rw [List.nodup_append] at hnd
    obtain ⟨_, hnd2, hdisj⟩ := hnd
    simp only [LangAlt] at hla
    rcases List.mem_cons.mp href with href | href
    · subst href
      rcases hla with hla | hla
      · simp only [Lang, withinMax] at hla
        obtain ⟨j, hj1, hj2, rfl⟩ := hla
        cases Nat.le_antisymm hj2 hj1
        rfl
      · exfalso
        have := LangAlt_names_sub true M as w hla x hin
        exact hdisj x (by simp [Spec.names]) x this rfl
    · rcases hla with hla | hla
      · exfalso
        have h1 := Lang_names_sub true M a w hla x hin
        exact hdisj x h1 x (mem_namesL_of_leaf href) rfl
      · exact ih hnd2 href hla

theorem Lang_choice_leaf_alone {M : Bool} {x : String} {alts : List Spec} {mn : Nat} {w : List String}
    (hnd : (Spec.namesL alts).Nodup) (hl : Lang true M (.choice alts mn (some 1)) w)
    (href : Spec.leaf x 1 (some 1) ∈ alts) (hin : x ∈ w) : w = [x] := by
  obtain ⟨k, hrep, _, hmax⟩ := hl
  rcases RepOf_le_one hrep hmax with ⟨_, rfl⟩ | ⟨_, hla, _⟩
  · cases hin
  · exact LangAlt_leaf_alone hin hnd href hla

theorem Lang_seq_leaf_tail {M : Bool} {sp : Spec} {y : String} {w : List String} :
    Lang true M (.seq [sp, .leaf y 1 none]) w ↔ ∃ w1 k, w = w1 ++ List.replicate k y ∧ Lang true M sp w1 ∧ 1 ≤ k := by
  simp only [Lang, LangSeq]
  constructor
  · rintro ⟨w1, w2, rfl, h1, w3, w4, rfl, ⟨k, hk, _, rfl⟩, rfl⟩
    exact ⟨w1, k, by rw [List.append_nil], h1, hk⟩
  · rintro ⟨w1, k, rfl, h1, hk⟩
    exact ⟨w1, _, rfl, h1, _, [], (List.append_nil _).symm, ⟨k, hk, trivial, rfl⟩, rfl⟩

/-- the language fact behind "a tree that validated before still validates": under a children section of one of the two
    shapes that permit `references`, a valid child sequence that contains `references` is `references` alone, followed at most
    by `role`s; putting in its place a sequence that is itself valid under the same section (the referenced element's
    children) gives a valid sequence again -/
theorem Lang_substNames {M : Bool} {ids : List (String × Tree)} {sp : Spec} {cs : List Tree} (hnd : sp.names.Nodup)
    (hshape : (∃ alts mn, sp = .choice alts mn (some 1) ∧ Spec.leaf "references" 1 (some 1) ∈ alts) ∨
      (∃ alts mn, sp = .seq [.choice alts mn (some 1), .leaf "role" 1 none] ∧ Spec.leaf "references" 1 (some 1) ∈ alts))
    (hlang : Lang true M sp (cs.map Tree.name))
    (hsrc : ∀ x ∈ cs, x.name = "references" → Lang true M sp ((refKids ids x.content).map Tree.name)) :
    Lang true M sp (substNames ids cs) := by
  by_cases href : "references" ∈ cs.map Tree.name
  case neg => rw [substNames_no_refs href]; exact hlang
  rcases hshape with ⟨alts, mn, rfl, hmem⟩ | ⟨alts, mn, rfl, hmem⟩
  · have hone := Lang_choice_leaf_alone (by simpa [Spec.names] using hnd) hlang hmem href
    obtain ⟨x, rfl, hx⟩ := List.map_eq_singleton_iff.mp hone
    rw [substNames_cons_ref ids hx, substNames, List.flatMap_nil, List.append_nil]
    exact hsrc x List.mem_cons_self hx
  · obtain ⟨w1, k, hw1, hl1, hk1⟩ := Lang_seq_leaf_tail.mp hlang
    have no_ref : "references" ∉ List.replicate k "role" := by simp
    have hin1 : "references" ∈ w1 := by
      rw [hw1] at href
      exact (List.mem_append.mp href).resolve_right no_ref
    have hndA : (Spec.namesL alts).Nodup := by
      simp only [Spec.names, Spec.namesL, List.append_nil] at hnd
      exact (List.nodup_append.mp hnd).1
    cases Lang_choice_leaf_alone hndA hl1 hmem hin1
    rw [List.singleton_append] at hw1
    obtain ⟨x, rest, rfl, hx, hrest⟩ := List.map_eq_cons_iff.mp hw1
    rw [substNames_cons_ref ids hx, substNames_no_refs (hrest ▸ no_ref), hrest]
    -- the sequence put in has the same form, so the `role`s at its end and those that were there run together
    obtain ⟨v1, j, hv, hlv, hj⟩ := Lang_seq_leaf_tail.mp (hsrc x List.mem_cons_self hx)
    rw [hv, List.append_assoc, List.replicate_append_replicate]
    exact Lang_seq_leaf_tail.mpr ⟨v1, j + k, rfl, hlv, Nat.le_add_right_of_le hj⟩

section
variable (L : Lexer) (T : Tables)

mutual
def OkT : Tree → Prop
  | .mk i n c tl p a e ns cs => collectNodeT L T (.mk i n c tl p a e ns cs) = [] ∧ (n = "metadata" ∨ OkL cs)
def OkL : List Tree → Prop
  | [] => True
  | c :: cs => OkT c ∧ OkL cs
end

theorem OkT_mk (i n : String) (c tl p : Option String) (a e ns : Dict) (cs : List Tree) :
    OkT L T (.mk i n c tl p a e ns cs) ↔ collectNode L T n c a (cs.map Tree.name) = [] ∧ (n = "metadata" ∨ OkL L T cs) := by
  simp only [OkT]
  rfl

theorem raw_nil_iff_both :
    (∀ (t : Tree) (path : Path), collectTreeRaw L T t path = [] ↔ OkT L T t) ∧
    ∀ (cs : List Tree) (path : Path) (k : Nat), collectKidsRaw L T cs path k = [] ↔ OkL L T cs := by
  apply Tree.induct₂
  case mk =>
    intro i n c tl p a e ns cs ih path
    simp only [collectTreeRaw, OkT, List.append_eq_nil_iff, List.map_eq_nil_iff]
    by_cases hn : n = "metadata"
    · simp [hn]
    · simp only [hn, false_or, if_false, ih path 0]
  case nil => intro _ _; simp [collectKidsRaw, OkL]
  case cons =>
    intro c cs ihc ih path k
    simp only [collectKidsRaw, OkL, List.append_eq_nil_iff, ihc (path ++ [k]), ih path (k + 1)]

theorem kidsRaw_nil_iff : ∀ (cs : List Tree) (path : Path) (k : Nat), collectKidsRaw L T cs path k = [] ↔ OkL L T cs :=
  (raw_nil_iff_both L T).2

theorem collectTree_nil_iff (t : Tree) : collectTree L T t = [] ↔ OkT L T t := by
  unfold collectTree
  rw [cutAtCrashP_eq_nil_iff, (raw_nil_iff_both L T).1]

theorem OkL_append {a b : List Tree} (ha : OkL L T a) (hb : OkL L T b) : OkL L T (a ++ b) := by
  induction a with
  | nil => exact hb
  | cons x a ih =>
    simp only [OkL] at ha
    simp only [List.cons_append, OkL]
    exact ⟨ha.1, ih ha.2⟩

theorem freshCopy_ok_both (u : Nat → String) :
    (∀ (t : Tree) (s : Nat), OkT L T t → OkT L T (freshCopy u t s).1) ∧
    ∀ (cs : List Tree) (s : Nat), OkL L T cs → OkL L T (freshCopyL u cs s).1 := by
  apply Tree.induct₂
  case mk =>
    intro i n c tl p a e ns cs ih s h
    rw [OkT_mk] at h
    rw [freshCopy, OkT_mk, freshCopyL_names]
    exact ⟨h.1, h.2.imp_right (ih (s + 1))⟩
  case nil => intro s _; simp [freshCopyL, OkL]
  case cons =>
    intro c cs ihc ih s h
    simp only [OkL] at h
    simp only [freshCopyL, OkL]
    exact ⟨ihc s h.1, ih _ h.2⟩

theorem freshCopy_ok (u : Nat → String) : ∀ (t : Tree) (s : Nat), OkT L T t → OkT L T (freshCopy u t s).1 :=
  (freshCopy_ok_both L T u).1

end

end Metapype
