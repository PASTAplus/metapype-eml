import MetapypeModel.Model.Forest
/- list lemmas behind the edit model, and the reads of `Forest.setKids` / `Forest.setParent` -/
namespace Metapype

namespace Forest
variable (F : Forest) (p c : Nat) (l : List Nat)
@[simp] theorem kids_setKids (q : Nat) : (F.setKids p l).kids q = if q = p then l else F.kids q := rfl
@[simp] theorem parent_setKids : (F.setKids p l).parent = F.parent := rfl
@[simp] theorem kids_setParent : (F.setParent c p).kids = F.kids := rfl
@[simp] theorem parent_setParent (x : Nat) : (F.setParent c p).parent x = if x = c then some p else F.parent x := rfl

variable {F p c l} {l₀ : List Nat}

theorem mem_kids_rearrange (hl : l.Perm l₀) (h₀ : l₀.Sublist (F.kids p)) {q x : Nat} (hx : x ∈ (F.setKids p l).kids q) :
    x ∈ F.kids q := by
  rw [kids_setKids] at hx
  split at hx
  · subst q
    exact h₀.subset (hl.mem_iff.mp hx)
  · exact hx

theorem mem_kids_attach (hl : l.Perm (c :: l₀)) (h₀ : l₀.Sublist (F.kids p)) {q x : Nat}
    (hx : x ∈ ((F.setKids p l).setParent c p).kids q) : x ∈ F.kids q ∨ (q = p ∧ x = c) := by
  rw [kids_setParent, kids_setKids] at hx
  split at hx
  · rcases List.mem_cons.mp (hl.mem_iff.mp hx) with h | h
    · exact Or.inr ⟨‹q = p›, h⟩
    · subst q
      exact Or.inl (h₀.subset h)
  · exact Or.inl hx
end Forest

theorem indexOf?_eq_findIdx? (x : Nat) (l : List Nat) : indexOf? x l = l.findIdx? (· == x) := by
  induction l with
  | nil => rfl
  | cons y ys ih =>
    rw [indexOf?, List.findIdx?_cons, ih]
    simp only [beq_iff_eq]

theorem indexOf?_some_getElem? (x : Nat) (l : List Nat) (i : Nat) (h : indexOf? x l = some i) : l[i]? = some x := by
  rw [indexOf?_eq_findIdx?, List.findIdx?_eq_some_iff_getElem] at h
  obtain ⟨hi, hx, _⟩ := h
  rw [List.getElem?_eq_getElem hi, beq_iff_eq.mp hx]

theorem indexOf?_isSome_of_mem (x : Nat) (l : List Nat) (h : x ∈ l) : ∃ i, indexOf? x l = some i := by
  rw [indexOf?_eq_findIdx?]
  exact Option.isSome_iff_exists.mp (List.findIdx?_isSome.trans (List.any_eq_true.mpr ⟨x, h, beq_self_eq_true x⟩))

theorem indexOf?_none_of_not_mem (x : Nat) : ∀ (l : List Nat), x ∉ l → indexOf? x l = none := by
  intro l h
  rw [indexOf?_eq_findIdx?, List.findIdx?_eq_none_iff]
  exact fun y hy => beq_eq_false_iff_ne.mpr fun e => h (e ▸ hy)

theorem swapAt_perm (l : List Nat) (i j : Nat) : (swapAt l i j).Perm l := by
  unfold swapAt
  split
  · rename_i a b ha hb
    obtain ⟨hi, rfl⟩ := List.getElem?_eq_some_iff.mp ha
    obtain ⟨hj, rfl⟩ := List.getElem?_eq_some_iff.mp hb
    exact List.set_set_perm hi hj
  · exact List.Perm.refl _

theorem swapAt_length (l : List Nat) (i j : Nat) : (swapAt l i j).length = l.length := (swapAt_perm l i j).length_eq

theorem swapAt_get_j (l : List Nat) (i j a : Nat) (h1 : l[i]? = some a) (hj : j < l.length) : (swapAt l i j)[j]? = some a := by
  rw [swapAt, h1, List.getElem?_eq_getElem hj]
  exact List.getElem?_set_self (by rwa [List.length_set])

theorem swapAt_get_i (l : List Nat) (i j b : Nat) (hi : i < l.length) (h2 : l[j]? = some b) (hne : i ≠ j) :
    (swapAt l i j)[i]? = some b := by
  rw [swapAt, List.getElem?_eq_getElem hi, h2]
  exact (List.getElem?_set_ne hne.symm).trans (List.getElem?_set_self hi)

theorem swapAt_get_other (l : List Nat) (i j k : Nat) (hki : k ≠ i) (hkj : k ≠ j) : (swapAt l i j)[k]? = l[k]? := by
  unfold swapAt
  split
  · exact (List.getElem?_set_ne hkj.symm).trans (List.getElem?_set_ne hki.symm)
  · rfl

theorem pyInsertPos_le (len : Nat) (i : Int) : pyInsertPos len i ≤ len := by
  unfold pyInsertPos
  split <;> split <;> omega

theorem insertAt_perm (l : List Nat) (k x : Nat) : (insertAt l k x).Perm (x :: l) := by
  unfold insertAt
  have h := List.perm_middle (a := x) (l₁ := l.take k) (l₂ := l.drop k)
  rw [List.take_append_drop] at h
  exact h

theorem mem_insertAt (l : List Nat) (k x y : Nat) : y ∈ insertAt l k x ↔ y = x ∨ y ∈ l :=
  (insertAt_perm l k x).mem_iff.trans List.mem_cons

theorem set_perm_cons_eraseIdx {l : List Nat} {i : Nat} (h : i < l.length) (y : Nat) :
    (l.set i y).Perm (y :: l.eraseIdx i) := by
  rw [List.set_eq_take_append_cons_drop, if_pos h, List.eraseIdx_eq_take_drop_succ]
  exact List.perm_middle

theorem nextSame_spec (name : Nat → String) (nm : String) (l : List Nat) (i j : Nat) (h : nextSame name nm l i = some j) :
    i < j ∧ j < l.length := by
  unfold nextSame at h
  have hm := List.mem_of_mem_head? h
  simp only [List.mem_filter, List.mem_range, Bool.and_eq_true, decide_eq_true_eq] at hm
  exact ⟨hm.2.1, hm.1⟩

theorem prevSame_spec (name : Nat → String) (nm : String) (l : List Nat) (i j : Nat) (h : prevSame name nm l i = some j) :
    j < i ∧ j < l.length := by
  unfold prevSame at h
  have hm := List.mem_of_getLast? h
  simp only [List.mem_filter, List.mem_range, Bool.and_eq_true, decide_eq_true_eq] at hm
  exact ⟨hm.2.1, hm.1⟩

theorem step_shift (F : Forest) (p c : Nat) (d : Dir) (sib : Bool) {i : Nat} (hi : indexOf? c (F.kids p) = some i) :
    step F (.shift p c d sib) = (F, .index i) ∨
    ∃ j, j < (F.kids p).length ∧ step F (.shift p c d sib) = (F.setKids p (swapAt (F.kids p) i j), .index j) := by
  have hlt : i < (F.kids p).length := (List.getElem?_eq_some_iff.mp (indexOf?_some_getElem? c _ i hi)).1
  simp only [step, hi]
  cases d <;> cases sib <;> simp only
  · split                -- left, past the neighbour whatever its name (unless `c` is first)
    · exact Or.inr ⟨i - 1, Nat.lt_of_le_of_lt (Nat.sub_le i 1) hlt, rfl⟩
    · exact Or.inl rfl
  · split                -- left, to the place of the previous sibling of the same name (if there is one)
    · rename_i j hj
      exact Or.inr ⟨j, (prevSame_spec _ _ _ _ _ hj).2, rfl⟩
    · exact Or.inl rfl
  · split                -- right, past the neighbour whatever its name (unless `c` is last)
    · rename_i h
      exact Or.inr ⟨i + 1, h, rfl⟩
    · exact Or.inl rfl
  · split                -- right, to the place of the next sibling of the same name (if there is one)
    · rename_i j hj
      exact Or.inr ⟨j, (nextSame_spec _ _ _ _ _ hj).2, rfl⟩
    · exact Or.inl rfl

end Metapype
