import MetapypeModel.Lemmas.NsFrame
import MetapypeModel.Lemmas.DictLemmas
/-
  Visibility lemmas for the namespace operations (C13, second half): after a declaration every node of
  the subtree sees the binding; after a removal no node of the subtree sees the prefix.

  The argument is monotone and needs no sharing invariant, not even that references are allocated: call a dict
  *good* when it satisfies `P`.  Every cell write of the operation produces a good dict (`P (d.set p u)` resp.
  `P (d.erase p)`), and a node is only ever re-pointed to a good one.  So "this node's map is good" is never lost
  once established, whatever aliasing the heap has and in whatever order nodes are visited.
-/
namespace Metapype

/-- `m` lies in the subtree of `n` at depth `< k` -/
inductive ReachIn (kids : Nat → List Nat) : Nat → Nat → Nat → Prop
  | refl (k n : Nat) : ReachIn kids (k + 1) n n
  | step {k n c m : Nat} : c ∈ kids n → ReachIn kids k c m → ReachIn kids (k + 1) n m

theorem ReachIn.succ {K : Nat → List Nat} {k n m : Nat} (h : ReachIn K k n m) : ReachIn K (k + 1) n m := by
  induction h with
  | refl k n => exact .refl (k + 1) n
  | step hc _ ih => exact .step hc ih

theorem ReachIn.mono {K : Nat → List Nat} {k k' n m : Nat} (h : ReachIn K k n m) (hk : k ≤ k') : ReachIn K k' n m := by
  induction hk with
  | refl => exact h
  | step _ ih => exact ih.succ

theorem reachIn_of_reach {K : Nat → List Nat} {n m : Nat} (h : Reach K n m) : ∃ k, ReachIn K k n m := by
  induction h with
  | refl n => exact ⟨1, .refl 0 n⟩
  | step hc _ ih => obtain ⟨k, hk⟩ := ih; exact ⟨k + 1, .step hc hk⟩

structure Grows (P : Dict → Prop) (H H' : NsHeap) : Prop where
  kids_eq : H'.kids = H.kids
  cells : ∀ r, H'.cell r = H.cell r ∨ P (H'.cell r)
  nodes : ∀ m, H'.ns m = H.ns m ∨ P (H'.nsmapOf m)

theorem Grows.refl (P : Dict → Prop) (H : NsHeap) : Grows P H H := ⟨rfl, fun _ => Or.inl rfl, fun _ => Or.inl rfl⟩

theorem Grows.good {P : Dict → Prop} {H H' : NsHeap} (a : Grows P H H') {m : Nat} (h : P (H.nsmapOf m)) : P (H'.nsmapOf m) := by
  rcases a.nodes m with e | g
  · rcases a.cells (H.ns m) with c | c
    · rw [NsHeap.nsmapOf, e, c]; exact h
    · rw [NsHeap.nsmapOf, e]; exact c
  · exact g

theorem Grows.trans {P : Dict → Prop} {H1 H2 H3 : NsHeap} (a : Grows P H1 H2) (b : Grows P H2 H3) : Grows P H1 H3 where
  kids_eq := by rw [b.kids_eq, a.kids_eq]
  cells r := by
    rcases b.cells r with e | g
    · rw [e]; exact a.cells r
    · exact Or.inr g
  nodes m := by
    rcases a.nodes m with e | g
    · rw [← e]; exact b.nodes m
    · exact Or.inr (b.good g)

theorem grows_setCell {P : Dict → Prop} (H : NsHeap) (r : Nat) {d : Dict} (hd : P d) : Grows P H (H.setCell r d) where
  kids_eq := rfl
  cells q := by rw [NsHeap.cell_setCell]; split <;> simp [hd]
  nodes _ := Or.inl rfl

theorem grows_setNs {P : Dict → Prop} (H : NsHeap) (c : Nat) {r : Nat} (hg : P (H.cell r)) : Grows P H (H.setNs c r) where
  kids_eq := rfl
  cells _ := Or.inl rfl
  nodes m := by
    by_cases e : m = c
    · exact Or.inr (by simpa [e] using hg)
    · exact Or.inl (if_neg e)

/-- `self.nsmap = copy.deepcopy(...)` with a good copy -/
theorem grows_fresh {P : Dict → Prop} (H : NsHeap) (n : Nat) {d : Dict} (hd : P d) :
    Grows P H ((H.alloc d).1.setNs n (H.alloc d).2) where
  kids_eq := rfl
  cells q := by simp only [NsHeap.cell_setNs, NsHeap.cell_alloc]; split <;> simp [hd]
  nodes m := by
    by_cases e : m = n
    · exact Or.inr (by simpa [e] using hd)
    · exact Or.inl (if_neg e)

theorem nsWalk_grows {own : NsHeap → Nat → Option Nat → NsHeap} {P : Dict → Prop}
    (hown : ∀ H n nsid, Grows P H (own H n nsid) ∧ P ((own H n nsid).nsmapOf n))
    (fuel : Nat) (H : NsHeap) (n : Nat) (nsid : Option Nat) : Grows P H (nsWalk own fuel H n nsid) ∧
      ∀ m, ReachIn H.kids fuel n m → P ((nsWalk own fuel H n nsid).nsmapOf m) := by
  induction fuel generalizing H n nsid with
  | zero => exact ⟨Grows.refl P H, fun _ h => nomatch h⟩
  | succ fuel ih =>
    obtain ⟨g1, p1⟩ := hown H n nsid
    rw [nsWalk]
    generalize own H n nsid = H1 at g1 p1
    generalize hf : nsWalkStep (nsWalk own fuel) n (nsid.getD (H.ns n)) = f
    -- one round of the loop, on a heap in which `n` is good: the child may be given `n`'s object first
    have round : ∀ Hc c, P (Hc.nsmapOf n) → Grows P Hc (f Hc c) ∧ ∀ m, ReachIn Hc.kids fuel c m → P ((f Hc c).nsmapOf m) := by
      intro Hc c hn
      subst hf
      unfold nsWalkStep
      split
      · obtain ⟨g, v⟩ := ih (Hc.setNs c (Hc.ns n)) c (some (nsid.getD (H.ns n)))
        exact ⟨(grows_setNs Hc c hn).trans g, v⟩
      · exact ih Hc c none
    have rounds : ∀ (cs : List Nat) H0, P (H0.nsmapOf n) → Grows P H0 (cs.foldl f H0) := fun cs H0 h0 =>
      List.foldlRecOn (motive := Grows P H0) cs f (Grows.refl P H0) fun Hc a c _ => a.trans (round Hc c (a.good h0)).1
    refine ⟨g1.trans (rounds _ H1 p1), fun m hm => ?_⟩
    cases hm with
    | refl => exact (rounds _ H1 p1).good p1
    | step hc hreach =>
      -- `m` becomes good in the round of the child it lies below, and the later rounds keep it good
      obtain ⟨s, t, e⟩ := List.append_of_mem hc
      rw [e, List.foldl_append, List.foldl_cons]
      have gs := rounds s H1 p1
      obtain ⟨gc, v⟩ := round (s.foldl f H1) _ (gs.good p1)
      exact (rounds t _ (gc.good (gs.good p1))).good (v m (by rw [gs.kids_eq, g1.kids_eq]; exact hreach))

theorem addNs_visible (p u : String) (P : Dict → Prop) (hP : ∀ d : Dict, P (d.set p u)) (fuel : Nat) (H : NsHeap) (n : Nat)
    (nsid : Option Nat) (m : Nat) (hm : ReachIn H.kids fuel n m) : P ((addNs fuel H n p u nsid).nsmapOf m) := by
  rw [addNs_eq_walk]
  refine (nsWalk_grows (fun H n nsid => ?_) fuel H n nsid).2 m hm
  cases nsid with
  | none =>
    rw [addOwn_none]
    exact ⟨grows_fresh H n (hP _), by simp [hP]⟩
  | some _ => exact ⟨grows_setCell _ _ (hP _), by simp [addOwn_some, hP]⟩

theorem removeNs_visible (p : String) (fuel : Nat) (H : NsHeap) (n : Nat) (nsid : Option Nat) (m : Nat)
    (hm : ReachIn H.kids fuel n m) : ((removeNs fuel H n p nsid).nsmapOf m).has p = false := by
  rw [removeNs_eq_walk]
  refine (nsWalk_grows (P := fun d => d.has p = false) (fun H n nsid => ?_) fuel H n nsid).2 m hm
  cases h : (H.cell (H.ns n)).has p with
  | true =>
    rw [removeOwn_has h]
    exact ⟨grows_fresh H n (has_erase_self _ p), by simp [has_erase_self]⟩
  | false =>
    rw [removeOwn_lacks h]
    exact ⟨Grows.refl _ H, h⟩

structure Keeps (P : Dict → Prop) (H H' : NsHeap) : Prop where
  next_le : H.next ≤ H'.next
  cells : ∀ r, r < H.next → P (H.cell r) → P (H'.cell r)

theorem Keeps.refl (P : Dict → Prop) (H : NsHeap) : Keeps P H H := ⟨Nat.le_refl _, fun _ _ h => h⟩
theorem Keeps.trans {P : Dict → Prop} {H1 H2 H3 : NsHeap} (a : Keeps P H1 H2) (b : Keeps P H2 H3) : Keeps P H1 H3 :=
  ⟨Nat.le_trans a.next_le b.next_le, fun r hr h => b.cells r (Nat.lt_of_lt_of_le hr a.next_le) (a.cells r hr h)⟩

theorem nsWalk_keeps {own : NsHeap → Nat → Option Nat → NsHeap} {P : Dict → Prop} (hown : ∀ H n nsid, Keeps P H (own H n nsid))
    (fuel : Nat) (H : NsHeap) (n : Nat) (nsid : Option Nat) : Keeps P H (nsWalk own fuel H n nsid) := by
  induction fuel generalizing H n nsid with
  | zero => exact Keeps.refl P H
  | succ fuel ih =>
    refine (hown H n nsid).trans (List.foldlRecOn (motive := Keeps P (own H n nsid)) _ _ (Keeps.refl P _) ?_)
    intro Hc a c _
    refine a.trans ?_
    unfold nsWalkStep
    split
    · exact Keeps.trans (H2 := Hc.setNs c (Hc.ns n)) ⟨Nat.le_refl _, fun _ _ h => h⟩ (ih _ c _)
    · exact ih Hc c none

theorem addNs_keeps (p u : String) (P : Dict → Prop) (hS : ∀ d : Dict, P d → P (d.set p u)) (fuel : Nat) (H : NsHeap) (n : Nat)
    (nsid : Option Nat) : Keeps P H (addNs fuel H n p u nsid) := by
  rw [addNs_eq_walk]
  refine nsWalk_keeps (fun H n nsid => ?_) fuel H n nsid
  cases nsid with
  | none =>
    rw [addOwn_none]
    exact ⟨Nat.le_succ _, fun r hr h => by rwa [NsHeap.cell_setNs, NsHeap.cell_alloc, if_neg (Nat.ne_of_lt hr)]⟩
  | some _ =>
    refine ⟨Nat.le_refl _, fun r _ h => ?_⟩
    rw [addOwn_some, NsHeap.cell_setCell]
    split
    · subst r
      exact hS _ h
    · exact h

theorem addNs_root (fuel : Nat) (H : NsHeap) (n : Nat) (p u : String) (hac : ∀ c ∈ H.kids n, ¬ Reach H.kids c n) :
    (addNs (fuel + 1) H n p u none).nsmapOf n = (H.nsmapOf n).set p u := by
  -- through the children loop `n` keeps the fresh object `H.next`, and that object keeps its content: the children are framed
  -- away from `n`, and what they write into the object, if they share it, is `p ↦ u` again
  let I (Hc : NsHeap) : Prop :=
    Hc.kids = H.kids ∧ Hc.ns n = H.next ∧ Hc.cell H.next = (H.nsmapOf n).set p u ∧ H.next < Hc.next
  suffices h : I (addNs (fuel + 1) H n p u none) by rw [NsHeap.nsmapOf, h.2.1, h.2.2.1]
  rw [addNs_eq_walk, nsWalk]
  refine List.foldlRecOn _ _ (by simp [I, addOwn_none, NsHeap.nsmapOf]) ?_
  rintro Hc ⟨hk, hn, hcell, hlt⟩ c hc
  have hcn : n ≠ c := fun e => hac c hc (e ▸ Reach.refl _)
  have call : ∀ (Hc' : NsHeap) nsid, I Hc' → I (nsWalk (addOwn p u) fuel Hc' c nsid) := by
    intro Hc' nsid ⟨hk', hn', hcell', hlt'⟩
    rw [← addNs_eq_walk]
    have fr := addNs_framed 0 p u fuel Hc' c nsid (Nat.zero_le _) (fun _ _ => Nat.zero_le _)
    have kp := addNs_keeps p u (· = (H.nsmapOf n).set p u) (fun d hd => hd ▸ set_set_self _ p u) fuel Hc' c nsid
    exact ⟨fr.kids_eq.trans hk', (fr.outside n (hk' ▸ hac c hc)).trans hn', kp.cells _ hlt' hcell', Nat.lt_of_lt_of_le hlt' fr.next_le⟩
  unfold nsWalkStep
  split
  · exact call _ _ ⟨hk, by simpa [hcn] using hn, hcell, hlt⟩
  · exact call _ _ ⟨hk, hn, hcell, hlt⟩

/-- one round of the loop of `add_child` on the child's own map: a prefix the child lacks is added -/
def mergeStep (m : Dict) (kv : String × String) : Dict := if m.has kv.1 then m else m.set kv.1 kv.2

def mergeD (par own : Dict) : Dict := par.foldl mergeStep own

theorem get?_mergeStep (m : Dict) (kv : String × String) (k : String) :
    (mergeStep m kv).get? k = (m.get? k).or (if kv.1 = k then some kv.2 else none) := by
  rw [mergeStep, apply_ite (Dict.get? · k), get?_set, has_eq_isSome]
  by_cases hk : kv.1 = k
  · subst hk
    cases m.get? kv.1 <;> simp
  · simp [hk]

theorem get?_mergeD (par own : Dict) (k : String) : (mergeD par own).get? k = (own.get? k).or (par.get? k) := by
  induction par generalizing own with
  | nil => exact (Option.or_none).symm
  | cons kv par ih =>
    rw [mergeD, List.foldl_cons, ← mergeD, ih, get?_mergeStep, Option.or_assoc, get?_cons]
    split <;> rfl

theorem attachFold_root (fuel c : Nat) (K : Nat → List Nat) (hac : ∀ k ∈ K c, ¬ Reach K k c) (d : Dict) (H : NsHeap)
    (hk : H.kids = K) : (attachFold (fuel + 1) c d H).nsmapOf c = mergeD d (H.nsmapOf c) := by
  induction d generalizing H with
  | nil => rfl
  | cons kv d ih =>
    rw [attachFold, List.foldl_cons, mergeD, List.foldl_cons, mergeStep]
    split
    · exact ih H hk
    · rw [← attachFold, ih _ ((addNs_framed 0 _ _ _ H c none (Nat.zero_le _) nofun).kids_eq.trans hk),
        addNs_root fuel H c _ _ (hk ▸ hac)]
      rfl

def withChild (H : NsHeap) (par c : Nat) : NsHeap :=
  { H with kids := fun a => if a = par then H.kids par ++ [c] else H.kids a }

theorem attachNs_eq (fuel : Nat) (H : NsHeap) (par c : Nat) :
    attachNs fuel H par c = if H.nsmapOf par = H.nsmapOf c then (withChild H par c).setNs c (H.ns par)
      else attachFold fuel c (H.nsmapOf par) (withChild H par c) := rfl

/-- `hac`: the child is not its own descendant -/
theorem attachNs_get? (fuel : Nat) (H : NsHeap) (par c : Nat)
    (hac : ∀ k ∈ (withChild H par c).kids c, ¬ Reach (withChild H par c).kids k c) (k : String) :
    ((attachNs (fuel + 1) H par c).nsmapOf c).get? k = ((H.nsmapOf c).get? k).or ((H.nsmapOf par).get? k) := by
  rw [attachNs_eq]
  split
  · rename_i e
    rw [← e, Option.or_self]
    simp [NsHeap.nsmapOf, withChild]
  · rw [attachFold_root fuel c _ hac _ (withChild H par c) rfl, get?_mergeD]
    rfl

theorem attachNs_visible (fuel : Nat) (H : NsHeap) (par c : Nat)
    (hac : ∀ k ∈ (withChild H par c).kids c, ¬ Reach (withChild H par c).kids k c) :
    (∀ kv ∈ H.nsmapOf par, ((attachNs (fuel + 1) H par c).nsmapOf c).has kv.1 = true) ∧
    (∀ k v, (H.nsmapOf c).get? k = some v → ((attachNs (fuel + 1) H par c).nsmapOf c).get? k = some v) := by
  refine ⟨fun kv hkv => ?_, fun k v h => ?_⟩
  · rw [has_eq_isSome, attachNs_get? fuel H par c hac, Option.isSome_or, ← has_eq_isSome (H.nsmapOf par), has_of_mem _ kv hkv,
      Bool.or_true]
  · rw [attachNs_get? fuel H par c hac, h]
    rfl

theorem attachNs_value (fuel : Nat) (H : NsHeap) (par c : Nat)
    (hac : ∀ k ∈ (withChild H par c).kids c, ¬ Reach (withChild H par c).kids k c)
    (hnd : (H.nsmapOf par).keys.Nodup) :
    ∀ kv ∈ H.nsmapOf par, (H.nsmapOf c).has kv.1 = false →
      ((attachNs (fuel + 1) H par c).nsmapOf c).get? kv.1 = some kv.2 := by
  intro kv hkv hlack
  rw [has_eq_isSome, Option.isSome_eq_false_iff, Option.isNone_iff_eq_none] at hlack
  rw [attachNs_get? fuel H par c hac, hlack, Option.none_or]
  exact get?_of_mem_nodup _ hnd kv.1 kv.2 hkv

end Metapype
