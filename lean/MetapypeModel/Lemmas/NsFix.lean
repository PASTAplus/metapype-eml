import MetapypeModel.Lemmas.NsFrame
/-
  Frame lemmas for `Node.fix_nsmap` (Model/NsHeap.lean `fixNs`).  Unlike add/remove, the helper writes *in place*
  into the dict object a descendant already holds (`node.nsmap[prefix] = nsmap[prefix]`), so the cell-level frame
  of `Framed` holds for it only with the mark at 0, where no cell is protected: that is the pointer-level frame `PFramed`.
  Cell-level frame (`WStep`): every write goes to a dict object allocated during the call or to one that
  some node of the subtree held when the call started (`W`).  Holds for every heap and every child relation
  (shared nodes, cycles); `K`, `n0`, `base`, `W` are fixed by the outermost call.
-/
namespace Metapype

structure PFramed (root : Nat) (H H' : NsHeap) : Prop where
  next_le : H.next ≤ H'.next
  outside : ∀ m, ¬ Reach H.kids root m → H'.ns m = H.ns m
  kids_eq : H'.kids = H.kids
  refs : (∀ m, H.ns m < H.next) → ∀ m, H'.ns m < H'.next

theorem Framed.pframed {base root : Nat} {H H' : NsHeap} (a : Framed base root H H') : PFramed root H H' :=
  ⟨a.next_le, a.outside, a.kids_eq, a.refs⟩

theorem framed_fixBind (n : Nat) (H : NsHeap) (kv : String × String) : Framed 0 n H (fixBind n H kv) := by
  unfold fixBind
  split
  · exact framed_setCell H _ _ (Nat.zero_le _)
  · exact (framed_fresh H n _ (Nat.zero_le _)).trans (framed_setCell _ _ _ (Nat.zero_le _))

/-- the `nsmap_id` that the children loop of `fixNs (fuel + 1) H n par nsid` runs with
    (`if nsmap is not None: if nsmap_id is None: nsmap_id = id(node.nsmap)`) -/
def fixId (H : NsHeap) (n : Nat) (par nsid : Option Nat) : Option Nat :=
  match par with
  | none => nsid
  | some _ => (match nsid with | none => some (H.ns n) | some i => some i)

/-- what `fixNs` does to the node itself before it turns to the children: take the parent's object `r`, or merge its bindings -/
def fixOwn (H : NsHeap) (n : Nat) : Option Nat → NsHeap
  | none => H
  | some r => if r == H.ns n || (H.cell r).same (H.nsmapOf n) then H.setNs n r else (H.cell r).foldl (fixBind n) H

/-- one turn of the children loop of `fixNs (fuel + 1) H n`: the call on the child `c`, from the heap `Hc` reached so far -/
def fixRound (fuel n : Nat) (id : Option Nat) (Hc : NsHeap) (c : Nat) : NsHeap :=
  if some (Hc.ns c) = id then fixNs fuel (Hc.setNs c (Hc.ns n)) c (some (Hc.ns n)) id
  else fixNs fuel Hc c (some (Hc.ns n)) none

theorem fixNs_succ (fuel : Nat) (H : NsHeap) (n : Nat) (par nsid : Option Nat) :
    fixNs (fuel + 1) H n par nsid = (H.kids n).foldl (fixRound fuel n (fixId H n par nsid)) (fixOwn H n par) :=
  rfl

theorem fixNs_framed (fuel : Nat) (H : NsHeap) (n : Nat) (par nsid : Option Nat)
    (hpar : ∀ r, par = some r → (∀ m, H.ns m < H.next) → r < H.next) : Framed 0 n H (fixNs fuel H n par nsid) := by
  induction fuel generalizing H n par nsid with
  | zero => exact Framed.refl _ _ H
  | succ fuel ih =>
    have loop : ∀ (id : Option Nat) (H1 : NsHeap), Framed 0 n H H1 → Framed 0 n H ((H.kids n).foldl (fixRound fuel n id) H1) := by
      intro id H1 own
      refine List.foldlRecOn (motive := Framed 0 n H) _ _ own fun Hc a c hc => a.trans ?_
      have hcn : c ∈ Hc.kids n := by rw [a.kids_eq]; exact hc
      unfold fixRound
      split
      · exact (framed_setNs Hc c _ (Or.inr (Nat.zero_le _)) (fun h => h n) (Reach.step hcn (Reach.refl c))).trans
          (Framed.lift (H := Hc.setNs c (Hc.ns n)) hcn (ih _ c _ _ (fun r hr h => by
            cases hr; simpa using h c)))
      · exact Framed.lift hcn (ih Hc c _ _ (fun r hr h => by cases hr; exact h n))
    rw [fixNs_succ]
    refine loop _ _ ?_
    cases par with
    | none => exact Framed.refl _ _ H
    | some r =>
      rw [fixOwn]
      split
      · exact framed_setNs H n r (Or.inr (Nat.zero_le _)) (hpar r rfl) (Reach.refl n)
      · exact List.foldlRecOn (motive := Framed 0 n H) _ _ (Framed.refl _ _ H) fun Hc a kv _ => a.trans (framed_fixBind n Hc kv)

theorem fixNs_pframed : ∀ (fuel : Nat) (H : NsHeap) (n : Nat) (par nsid : Option Nat),
    (∀ r, par = some r → (∀ m, H.ns m < H.next) → r < H.next) → PFramed n H (fixNs fuel H n par nsid) :=
  fun fuel H n par nsid hpar => (fixNs_framed fuel H n par nsid hpar).pframed

/-- `hpar`: the entry call, or the call that a parent holding `r0` makes on a child -/
theorem fixNs_all_shared (r0 fuel : Nat) (H : NsHeap) (c : Nat) (par nsid : Option Nat)
    (hall : ∀ x, Reach H.kids c x → H.ns x = r0) (hpar : par = none ∨ par = some r0) : fixNs fuel H c par nsid = H := by
  induction fuel generalizing c par nsid with
  | zero => rfl
  | succ fuel ih =>
    have hc : H.ns c = r0 := hall c (Reach.refl c)
    have loop : ∀ id : Option Nat, (H.kids c).foldl (fixRound fuel c id) H = H := by
      intro id
      refine List.foldlRecOn (motive := (· = H)) _ _ rfl ?_
      intro Hc e c' hc'
      subst Hc
      have hall' : ∀ x, Reach H.kids c' x → H.ns x = r0 := fun x hx => hall x (Reach.step hc' hx)
      have e : H.ns c = H.ns c' := by rw [hc, hall' c' (Reach.refl c')]
      unfold fixRound
      split
      · rw [e, NsHeap.setNs_self]
        exact ih c' _ _ hall' (Or.inr (by rw [← e, hc]))
      · exact ih c' _ _ hall' (Or.inr (by rw [hc]))
    have own : fixOwn H c par = H := by
      rcases hpar with rfl | rfl
      · rfl
      · simp only [fixOwn, hc, BEq.rfl, Bool.true_or, if_true]
        rw [← hc, NsHeap.setNs_self]
    rw [fixNs_succ, own]
    exact loop _

structure WPre (K : Nat → List Nat) (n0 base : Nat) (W : Nat → Prop) (H : NsHeap) : Prop where
  kids_eq : H.kids = K
  base_le : base ≤ H.next
  inv : ∀ x, Reach K n0 x → (W (H.ns x) ∨ base ≤ H.ns x)

structure WStep (K : Nat → List Nat) (n0 base : Nat) (W : Nat → Prop) (H H' : NsHeap) : Prop where
  pre : WPre K n0 base W H'
  cells : ∀ r, r < base → ¬ W r → H'.cell r = H.cell r

variable {K : Nat → List Nat} {n0 base : Nat} {W : Nat → Prop}

theorem WStep.refl {H : NsHeap} (h : WPre K n0 base W H) : WStep K n0 base W H H := ⟨h, fun _ _ _ => rfl⟩

theorem WStep.trans {H1 H2 H3 : NsHeap} (a : WStep K n0 base W H1 H2) (b : WStep K n0 base W H2 H3) :
    WStep K n0 base W H1 H3 :=
  ⟨b.pre, fun r hr hw => by rw [b.cells r hr hw, a.cells r hr hw]⟩

theorem wstep_setNs {H : NsHeap} (h : WPre K n0 base W H) (c r : Nat) (hr : W r ∨ base ≤ r) :
    WStep K n0 base W H (H.setNs c r) where
  pre := ⟨h.kids_eq, h.base_le, fun x hx => by
    rw [NsHeap.ns_setNs]
    split
    · exact hr
    · exact h.inv x hx⟩
  cells _ _ _ := rfl

theorem wstep_setCell {H : NsHeap} (h : WPre K n0 base W H) (r : Nat) (d : Dict) (hr : W r ∨ base ≤ r) :
    WStep K n0 base W H (H.setCell r d) where
  pre := ⟨h.kids_eq, h.base_le, h.inv⟩
  cells q hq hw := if_neg fun (e : q = r) => hr.elim (e ▸ hw) (by omega)

theorem wstep_alloc {H : NsHeap} (h : WPre K n0 base W H) (d : Dict) : WStep K n0 base W H (H.alloc d).1 where
  pre := ⟨h.kids_eq, Nat.le_succ_of_le h.base_le, h.inv⟩
  cells q hq _ := if_neg (by have := h.base_le; omega)

theorem wstep_fixBind {H : NsHeap} (h : WPre K n0 base W H) (c : Nat) (hc : Reach K n0 c) (kv : String × String) :
    WStep K n0 base W H (fixBind c H kv) := by
  unfold fixBind
  split
  · exact wstep_setCell h _ _ (h.inv c hc)
  · have a := wstep_alloc h (H.nsmapOf c)
    have b := wstep_setNs a.pre c (H.alloc (H.nsmapOf c)).2 (Or.inr h.base_le)
    exact (a.trans b).trans (wstep_setCell b.pre _ _ (Or.inr (by simpa using h.base_le)))

theorem wstep_foldl {α : Type} (f : NsHeap → α → NsHeap) (l : List α) {H : NsHeap} (h : WPre K n0 base W H)
    (hf : ∀ Hc, WPre K n0 base W Hc → ∀ a ∈ l, WStep K n0 base W Hc (f Hc a)) : WStep K n0 base W H (l.foldl f H) :=
  List.foldlRecOn (motive := WStep K n0 base W H) l f (WStep.refl h) fun Hc s a ha => s.trans (hf Hc s.pre a ha)

theorem fixNs_wstep : ∀ (fuel : Nat) (H : NsHeap) (n : Nat) (par nsid : Option Nat), WPre K n0 base W H → Reach K n0 n →
    (∀ r, par = some r → W r ∨ base ≤ r) → WStep K n0 base W H (fixNs fuel H n par nsid) := by
  intro fuel
  induction fuel with
  | zero => exact fun H _ _ _ h _ _ => WStep.refl h
  | succ fuel ih =>
    intro H n par nsid h hn hpar
    have loop : ∀ (id : Option Nat) (H1 : NsHeap), WStep K n0 base W H H1 →
        WStep K n0 base W H ((H.kids n).foldl (fixRound fuel n id) H1) := by
      intro id H1 own
      refine own.trans (wstep_foldl _ _ own.pre fun Hc hpre c hc => ?_)
      have hcr : Reach K n0 c := hn.snoc (h.kids_eq ▸ hc)
      have hnr := hpre.inv n hn
      unfold fixRound
      split
      · have a := wstep_setNs hpre c (Hc.ns n) hnr
        exact a.trans (ih _ c _ _ a.pre hcr (fun r hr => by cases hr; exact hnr))
      · exact ih Hc c _ _ hpre hcr (fun r hr => by cases hr; exact hnr)
    rw [fixNs_succ]
    refine loop _ _ ?_
    cases par with
    | none => exact WStep.refl h
    | some r =>
      rw [fixOwn]
      split
      · exact wstep_setNs h n r (hpar r rfl)
      · exact wstep_foldl _ _ h fun Hc hpre kv _ => wstep_fixBind hpre n hn kv

end Metapype
