import MetapypeModel.Model.Matcher
import MetapypeModel.Model.Lang
/- lemmas about `runLeaf` (`_validate_rule_child`) -/
namespace Metapype

theorem exceeds_false_iff (occ : Nat) (mx : Option Nat) : exceeds occ mx = false ↔ withinMax occ mx := by
  cases mx <;> simp [exceeds, withinMax]

theorem withinMax_mono {a b : Nat} {mx : Option Nat} (h : a ≤ b) (hb : withinMax b mx) : withinMax a mx := by
  cases mx with
  | none => trivial
  | some m => exact Nat.le_trans h hb

theorem withinMax_zero (mx : Option Nat) : withinMax 0 mx := by
  cases mx with
  | none => trivial
  | some m => exact Nat.zero_le m

/-- `runLeaf.induct_unfolding` with the cases named: the list is empty; the head is another name; the head is `n` and the run
    stops at the maximum (limit mode); the head is `n`, the run goes on, and this copy is one too many (`over`) or not (`more`) -/
theorem runLeaf_induct (n : String) (mn : Nat) (mx : Option Nat) (lim : Bool)
    {motive : Nat → List String → List String × List Ev → Prop}
    (nil : ∀ occ, motive occ [] ([], if occ < mn then [.err .minOcc] else []))
    (other : ∀ occ x xs, x ≠ n → motive occ (x :: xs) (x :: xs, if occ < mn then [.err .minOcc] else []))
    (limit : ∀ occ xs, (lim && mx == some (occ + 1)) = true → motive occ (n :: xs) (xs, []))
    (over : ∀ occ xs, (lim && mx == some (occ + 1)) = false → exceeds (occ + 1) mx = true →
      motive (occ + 1) xs (runLeaf n mn mx lim (occ + 1) xs) →
      motive occ (n :: xs) ((runLeaf n mn mx lim (occ + 1) xs).1, .err .maxOcc :: (runLeaf n mn mx lim (occ + 1) xs).2))
    (more : ∀ occ xs, (lim && mx == some (occ + 1)) = false → exceeds (occ + 1) mx = false →
      motive (occ + 1) xs (runLeaf n mn mx lim (occ + 1) xs) → motive occ (n :: xs) (runLeaf n mn mx lim (occ + 1) xs))
    (occ : Nat) (xs : List String) : motive occ xs (runLeaf n mn mx lim occ xs) :=
  runLeaf.induct_unfolding n mn mx lim motive nil limit
    (fun occ xs he hex ih => over occ xs (Bool.not_eq_true _ ▸ he) hex ih)
    (fun occ xs he hex ih => more occ xs (Bool.not_eq_true _ ▸ he) (Bool.not_eq_true _ ▸ hex) ih)
    other occ xs

theorem runLeaf_eats (n : String) (mn : Nat) (mx : Option Nat) (lim : Bool) (occ : Nat) (xs : List String) :
    ∃ k, xs = List.replicate k n ++ (runLeaf n mn mx lim occ xs).1 ∧ (xs.head? = some n → 1 ≤ k) := by
  induction occ, xs using runLeaf_induct n mn mx lim with
  | nil => exact ⟨0, rfl, by simp⟩
  | other _ _ _ hx => exact ⟨0, rfl, by simp [hx]⟩
  | limit => exact ⟨1, rfl, by simp⟩
  | over _ _ _ _ ih | more _ _ _ _ ih =>
    obtain ⟨k, hk, _⟩ := ih
    exact ⟨k + 1, congrArg (n :: ·) hk, by simp⟩

theorem runLeaf_isSuffix (n : String) (mn : Nat) (mx : Option Nat) (lim : Bool) (occ : Nat) (xs : List String) :
    (runLeaf n mn mx lim occ xs).1 <:+ xs := by
  obtain ⟨k, hk, _⟩ := runLeaf_eats n mn mx lim occ xs
  exact ⟨List.replicate k n, hk.symm⟩

theorem runLeaf_head_shorter (n : String) (mn : Nat) (mx : Option Nat) (lim : Bool) (occ : Nat) (t : List String) :
    (runLeaf n mn mx lim occ (n :: t)).1.length < (n :: t).length := by
  obtain ⟨k, hk, h1⟩ := runLeaf_eats n mn mx lim occ (n :: t)
  have := congrArg List.length hk
  have := h1 rfl
  simp only [List.length_cons, List.length_append, List.length_replicate] at *
  omega

theorem runLeaf_lim_progress (n : String) (mn : Nat) (mx : Option Nat) (t : List String) :
    ∃ k, n :: t = List.replicate (k + 1) n ++ (runLeaf n mn mx true 0 (n :: t)).1 := by
  obtain ⟨k, hk, h1⟩ := runLeaf_eats n mn mx true 0 (n :: t)
  obtain ⟨j, rfl⟩ := Nat.exists_eq_add_of_le' (h1 rfl)
  exact ⟨j, hk⟩

theorem runLeaf_complete (n : String) (mn : Nat) (mx : Option Nat) (lim : Bool) (k : Nat) :
    ∀ (occ : Nat) (suf : List String), suf.head? ≠ some n →
      mn ≤ occ + k → withinMax (occ + k) mx →
      runLeaf n mn mx lim occ (List.replicate k n ++ suf) = (suf, []) := by
  induction k with
  | zero =>
    intro occ suf hs hmin _
    have hm : ¬ occ < mn := by omega
    cases suf with
    | nil => simp only [List.replicate_zero, List.nil_append, runLeaf, if_neg hm]
    | cons x t =>
      have hx : x ≠ n := fun h => hs (h ▸ rfl)
      simp only [List.replicate_zero, List.nil_append, runLeaf, if_neg hx, if_neg hm]
  | succ k ih =>
    intro occ suf hs hmin hmax
    simp only [List.replicate_succ, List.cons_append, runLeaf, if_true]
    by_cases he : (lim && mx == some (occ + 1)) = true
    · -- the limit is reached with the first copy: it was the only one
      rw [if_pos he]
      simp only [Bool.and_eq_true, beq_iff_eq] at he
      have : k = 0 := by
        rw [he.2] at hmax; simp only [withinMax] at hmax; omega
      subst this; rfl
    · rw [if_neg he, ih (occ + 1) suf hs (by omega) (by rw [Nat.add_right_comm]; exact hmax)]
      have : exceeds (occ + 1) mx = false :=
        (exceeds_false_iff _ _).mpr (withinMax_mono (by omega) hmax)
      simp [this]

/-- The two ways a run ends without a report: at another name (or the end) with the minimum reached, or, in limit
    mode, at the maximum (`return None`, rule.py:773-774, where the minimum is not looked at). -/
theorem runLeaf_sound (n : String) (mn : Nat) (mx : Option Nat) (lim : Bool) (occ : Nat) (xs rest : List String) :
    runLeaf n mn mx lim occ xs = (rest, []) →
      ∃ k, xs = List.replicate k n ++ rest ∧ (1 ≤ k → withinMax (occ + k) mx) ∧
        ((mn ≤ occ + k ∧ rest.head? ≠ some n) ∨ (lim = true ∧ 1 ≤ k ∧ mx = some (occ + k))) := by
  induction occ, xs using runLeaf_induct n mn mx lim with
  | nil occ =>
    intro h
    split at h <;> cases h
    exact ⟨0, rfl, by omega, Or.inl ⟨by omega, by simp⟩⟩
  | other occ x xs hx =>
    intro h
    split at h <;> cases h
    exact ⟨0, rfl, by omega, Or.inl ⟨by omega, by simpa using hx⟩⟩
  | limit occ xs he =>
    intro h
    cases h
    simp only [Bool.and_eq_true, beq_iff_eq] at he
    exact ⟨1, rfl, fun _ => he.2 ▸ Nat.le_refl _, Or.inr ⟨he.1, Nat.le_refl 1, he.2⟩⟩
  | over =>
    intro h
    cases h
  | more occ xs he hex ih =>
    intro h
    obtain ⟨k, hk, hw, hs⟩ := ih h
    -- `occ + 1 + k` becomes `occ + k + 1`, which is `occ + (k + 1)` by computation
    rw [Nat.add_right_comm] at hw hs
    refine ⟨k + 1, congrArg (n :: ·) hk, fun _ => ?_, hs.imp id (fun h => ⟨h.1, Nat.le_add_left 1 k, h.2.2⟩)⟩
    cases k with
    | zero => exact (exceeds_false_iff _ _).mp hex
    | succ k => exact hw (Nat.le_add_left 1 k)

theorem runLeaf_lang (M : Bool) (n : String) (mn : Nat) (mx : Option Nat) (lim : Bool) (hb : leafItemOK mn mx = true)
    (xs rest : List String) (h : runLeaf n mn mx lim 0 xs = (rest, [])) :
    ∃ pre, xs = pre ++ rest ∧ Lang true M (.leaf n mn mx) pre ∧ (xs.head? = some n → pre ≠ []) := by
  obtain ⟨k, hk1, hk2, hk3⟩ := runLeaf_sound n mn mx lim 0 xs rest h
  refine ⟨List.replicate k n, hk1, ⟨k, ?_, ?_, rfl⟩, fun hx hnil => ?_⟩
  · rcases hk3 with ⟨ha, _⟩ | ⟨_, _, hc⟩
    · omega
    · -- stopped at the maximum, which is not below the minimum
      subst hc
      simp only [leafItemOK, decide_eq_true_eq] at hb
      omega
  · cases k with
    | zero => exact withinMax_zero mx
    | succ k => simpa using hk2 (by omega)
  · -- nothing consumed: the run stopped in front of `xs`, which starts with `n`
    obtain rfl : k = 0 := by simpa using congrArg List.length hnil
    rcases hk3 with ⟨_, hr⟩ | ⟨_, hk, _⟩
    · exact hr ((show xs = rest from hk1) ▸ hx)
    · omega

theorem runLeaf_complete_lang (M : Bool) (n : String) (mn : Nat) (mx : Option Nat) (lim : Bool) (pre suf : List String)
    (hl : Lang true M (.leaf n mn mx) pre) (hs : suf.head? ≠ some n) :
    runLeaf n mn mx lim 0 (pre ++ suf) = (suf, []) := by
  obtain ⟨k, hk1, hk2, rfl⟩ := hl
  exact runLeaf_complete n mn mx lim k 0 suf hs (by omega) (by simpa using hk2)

/-- In limit mode a run reports nothing if one more copy is allowed and the minimum is reached: already (`mn ≤ occ`, the form
    the induction keeps) or by the copy at the cursor (the form at the entry call, with `occ = 0` and `mn ≤ 1`).  The run
    stops at the maximum and so never counts past it. -/
theorem runLeaf_lim_noerr (n : String) (mn : Nat) (mx : Option Nat) (occ : Nat) (xs : List String) :
    withinMax (occ + 1) mx →
      (mn ≤ occ ∨ (mn ≤ occ + 1 ∧ xs.head? = some n)) → (runLeaf n mn mx true occ xs).2 = [] := by
  induction occ, xs using runLeaf_induct n mn mx true with
  | nil occ =>
    intro _ h2
    have : ¬ occ < mn := by simpa using h2
    rw [if_neg this]
  | other occ x xs hx =>
    intro _ h2
    have : ¬ occ < mn := by
      rcases h2 with h2 | ⟨_, h2⟩
      · omega
      · exact absurd (by simpa using h2) hx
    rw [if_neg this]
  | limit => exact fun _ _ => rfl
  | over occ xs he hex ih =>
    intro h1 _
    rw [(exceeds_false_iff _ _).mpr h1] at hex
    cases hex
  | more occ xs he hex ih =>
    intro h1 h2
    refine ih ?_ (Or.inl (by omega))
    -- the run did not stop here, so the maximum is not `occ + 1`: there is room for one more copy
    cases mx with
    | none => trivial
    | some m =>
      have : m ≠ occ + 1 := by simpa using he
      simp only [withinMax] at h1 ⊢
      omega
end Metapype
