import MetapypeModel.Model.Registry
/-
  Key-set effect of the registry's operations (assignment, deletion of a node, of a subtree, of a list of subtrees),
  and induction on id trees.  Used by C14 and by the prune/registry composition.
-/
namespace Metapype

theorem IdTree.induct₂ {P : IdTree → Prop} {Q : List IdTree → Prop}
    (mk : ∀ i o ks, Q ks → P (.mk i o ks))
    (nil : Q []) (cons : ∀ k ks, P k → Q ks → Q (k :: ks)) : (∀ t, P t) ∧ ∀ ks, Q ks :=
  ⟨fun t => IdTree.rec mk nil cons t, fun ks => IdTree.rec_1 mk nil cons ks⟩

theorem del_keys {R R' : Registry} {k : String} (h : R.del k = some R') : R'.keys = R.keys.filter (· != k) := by
  simp only [Registry.del, Option.ite_none_right_eq_some, Option.some.injEq] at h
  simp only [← h.2, Registry.keys, List.filter_map]
  rfl

theorem delTree_keys_both :
    (∀ (R : Registry) (t : IdTree) (R' : Registry), R.delTree t = some R' → R'.keys = R.keys.filter (fun k => !(t.ids.contains k))) ∧
    (∀ (R : Registry) (ks : List IdTree) (R' : Registry), R.delTreeL ks = some R' →
      R'.keys = R.keys.filter (fun k => !((IdTree.idsL ks).contains k))) := by
  -- every single deletion filters the key list (`del_keys`); two filters in a row are the filter by both tests, and
  -- "in neither id list" is "not in their concatenation"
  refine Registry.delTree.mutual_induct _ _ ?_ ?_ ?_ ?_ ?_
  · intro R i o ks hl _ R' h                   -- delTree: deleting the children fails
    simp only [Registry.delTree, hl] at h
    cases h
  · intro R i o ks R1 hl ih R' h               -- delTree: the children are deleted (giving R1), then the node itself
    simp only [Registry.delTree, hl] at h
    rw [del_keys h, ih R1 hl, List.filter_filter]
    refine List.filter_congr fun k _ => ?_
    simp only [IdTree.ids, List.contains_cons, Bool.not_or, bne]
  · intro R R' h                               -- delTreeL []
    cases h
    exact (List.filter_eq_self.mpr fun _ _ => rfl).symm
  · intro R t ts h1 _ R' h                     -- delTreeL (t :: ts): deleting t fails
    simp only [Registry.delTreeL, h1] at h
    cases h
  · intro R t ts R1 h1 iht ihts R' h           -- delTreeL (t :: ts): t is deleted (giving R1), then ts
    simp only [Registry.delTreeL, h1] at h
    rw [ihts R' h, iht R1 h1, List.filter_filter]
    refine List.filter_congr fun k _ => ?_
    simp only [IdTree.idsL, List.contains_append, Bool.not_or, Bool.and_comm]

theorem delete_keys_iff {t : IdTree} {R R' : Registry} (h : R.delTree t = some R') :
    ∀ k, k ∈ R'.keys ↔ (k ∈ R.keys ∧ k ∉ t.ids) := by
  intro k
  rw [delTree_keys_both.1 R t R' h, List.mem_filter]
  simp

theorem delTreeL_keys_iff {ks : List IdTree} {R R' : Registry} (h : R.delTreeL ks = some R') :
    ∀ k, k ∈ R'.keys ↔ (k ∈ R.keys ∧ k ∉ IdTree.idsL ks) := by
  intro k
  rw [delTree_keys_both.2 R ks R' h, List.mem_filter]
  simp

theorem set_keys (R : Registry) (k : String) (v : Nat) (x : String) : x ∈ (R.set k v).keys ↔ (x ∈ R.keys ∨ x = k) := by
  fun_induction Registry.set R k v with
  | case1 => simp [Registry.keys]              -- empty registry
  | case2 k' v' R k v hb =>                    -- the first entry has the key
    simp only [Registry.keys, List.map_cons, List.mem_cons, beq_iff_eq.mp hb]
    exact (or_iff_left_of_imp Or.inl).symm
  | case3 k' v' R k v hb ih =>                 -- the first entry has another key
    simp only [Registry.keys, List.map_cons, List.mem_cons, or_assoc] at ih ⊢
    rw [ih]

theorem entries_ids_both :
    (∀ t : IdTree, t.entries.map (·.1) = t.ids) ∧ ∀ ks : List IdTree, (IdTree.entriesL ks).map (·.1) = IdTree.idsL ks := by
  apply IdTree.induct₂
  case mk => intro i o ks ih; simp only [IdTree.entries, IdTree.ids, List.map_cons, ih]
  case nil => rfl
  case cons => intro k ks ihk ih; simp only [IdTree.entriesL, IdTree.idsL, List.map_append, ihk, ih]

end Metapype
