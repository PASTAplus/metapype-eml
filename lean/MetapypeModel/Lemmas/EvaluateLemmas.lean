import MetapypeModel.Model.Evaluate
/-
  How the evaluation rules are read: every recommendation is a one-element list under a condition, so membership of a code
  is that condition (core's `List.mem_ite_nil_right`); the conditions speak of `List.any`, `lastNamed` and `missingOrEmpty`.
-/
namespace Metapype

theorem ite_nil_eq_nil {α : Type} {p : Prop} [Decidable p] {a : α} : (if p then [] else [a]) = [] ↔ p := by
  simp

theorem missingOrEmpty_iff (o : Option Tree) : missingOrEmpty o = true ↔ ∀ n, o = some n → truthy n.content = false := by
  cases o <;> simp [missingOrEmpty]

theorem lastNamed_none_iff (x : String) (cs : List Tree) : lastNamed x cs = none ↔ ¬ ∃ c ∈ cs, c.name = x := by
  simp only [lastNamed, List.getLast?_eq_none_iff, List.filter_eq_nil_iff, beq_iff_eq, not_exists, not_and]

theorem lastNamed_some_mem (x : String) (cs : List Tree) (a : Tree) (h : lastNamed x cs = some a) : a ∈ cs ∧ a.name = x := by
  simpa using List.mem_filter.mp (List.mem_of_getLast? h)

theorem mem_dsAbstractW (cs : List Tree) (w : String) : w ∈ dsAbstractW cs ↔
    (w = "DATASET_ABSTRACT_MISSING" ∧ ∀ a, lastNamed "abstract" cs = some a → getTextContent a = "") ∨
    (w = "DATASET_ABSTRACT_TOO_SHORT" ∧ ∃ a, lastNamed "abstract" cs = some a ∧ getTextContent a ≠ "" ∧
      pyWordCount (getTextContent a).toList < 20) := by
  unfold dsAbstractW
  cases lastNamed "abstract" cs with
  | none => simp
  | some a =>
    by_cases he : getTextContent a = ""
    · simp [he]
    · simp [he, and_comm]

theorem mem_dsCoverageW (cs : List Tree) (w : String) : w ∈ dsCoverageW cs ↔
    w = "DATASET_COVERAGE_MISSING" ∧ ∀ c, lastNamed "coverage" cs = some c → c.children = [] := by
  unfold dsCoverageW
  cases lastNamed "coverage" cs <;> simp [and_comm]

theorem mem_dsRightsW (cs : List Tree) (w : String) : w ∈ dsRightsW cs ↔
    w = "INTELLECTUAL_RIGHTS_MISSING" ∧ ∀ r, lastNamed "intellectualRights" cs = some r → truthy r.content = false := by
  unfold dsRightsW
  cases lastNamed "intellectualRights" cs <;> simp [and_comm]

theorem mem_dsKeywordsW (cs : List Tree) (w : String) : w ∈ dsKeywordsW cs ↔
    (w = "KEYWORDS_MISSING" ∧ ¬ ∃ c ∈ cs, c.name = "keywordSet") ∨
    (w = "KEYWORDS_INSUFFICIENT" ∧ (∃ c ∈ cs, c.name = "keywordSet") ∧ keywordTotal cs < 5) := by
  have hk : (cs.filter (fun c => c.name == "keywordSet")).isEmpty = true ↔ ¬ ∃ c ∈ cs, c.name = "keywordSet" := by
    simp only [List.isEmpty_iff, List.filter_eq_nil_iff, beq_iff_eq, not_exists, not_and]
  simp only [dsKeywordsW, hk]
  by_cases hex : ∃ c ∈ cs, c.name = "keywordSet"
  · simp [hex, and_comm]
  · simp [hex]

end Metapype
