import MetapypeModel.Lemmas.MatcherComplete
/- `_validate_children` as a whole (rule.py `_validate_children`): a top-level spec of the class is a sequence of items, so
   soundness and completeness of the items give acceptance ⇔ membership in the language, before and after the cut -/
namespace Metapype

mutual
theorem Lang_strict_lax (M : Bool) : ∀ (s : Spec) (w : List String), Lang true M s w → Lang false M s w
  | .leaf _ _ _ => fun _ h => h
  | .seq items => LangSeq_strict_lax M items
  | .choice alts _ _ => fun w ⟨k, h1, h2, h3⟩ =>
    ⟨k, RepOf_imp (fun hf => Bool.noConfusion hf) (fun v hv => LangAlt_strict_lax M alts v hv) k w h1, h2, h3⟩
theorem LangSeq_strict_lax (M : Bool) : ∀ (items : List Spec) (w : List String), LangSeq true M items w → LangSeq false M items w
  | [] => fun _ h => h
  | s :: ss => fun _ ⟨w₁, w₂, hw, h1, h2⟩ => ⟨w₁, w₂, hw, Lang_strict_lax M s w₁ h1, LangSeq_strict_lax M ss w₂ h2⟩
theorem LangAlt_strict_lax (M : Bool) : ∀ (alts : List Spec) (w : List String), LangAlt true M alts w → LangAlt false M alts w
  | [] => fun _ h => nomatch h
  | a :: as => fun w h => h.imp (Lang_strict_lax M a w) (LangAlt_strict_lax M as w)
end

/-- the top-level dispatch runs the sequence matcher: a single choice is a sequence of one item -/
theorem wfTop_seq {s : Spec} (hw : wfTop s = true) :
    s.names.Nodup ∧ ∃ items, wfItems items = true ∧ Spec.namesL items = s.names ∧
      (∀ M xs, matchTop M s xs = gSeq M items xs) ∧ ∀ M w, Lang true M s w ↔ LangSeq true M items w := by
  simp only [wfTop, Bool.and_eq_true, decide_eq_true_eq] at hw
  refine ⟨hw.1, ?_⟩
  cases s with
  | leaf _ _ _ => cases hw.2
  | seq items => exact ⟨items, hw.2, rfl, fun M xs => by cases items <;> rfl, fun _ _ => Iff.rfl⟩
  | choice alts mn mx =>
    refine ⟨[.choice alts mn mx], by simp only [wfItems, hw.2, Bool.and_self], List.append_nil _, fun M xs => ?_,
      fun M w => ?_⟩
    · simp only [matchTop, gChoice, gSeq, List.append_nil]
    · exact ⟨fun h => ⟨w, [], (List.append_nil w).symm, h, rfl⟩,
        fun ⟨w₁, _, hw, h, hn⟩ => by rw [hw, hn, List.append_nil]; exact h⟩

theorem matchTop_nil_iff (M : Bool) {s : Spec} (hw : wfTop s = true) (xs : List String) :
    matchTop M s xs = ([], []) ↔ Lang true M s xs := by
  obtain ⟨hnd, items, hwi, hnm, hrun, hlang⟩ := wfTop_seq hw
  rw [hrun, hlang]
  constructor
  · intro h
    obtain ⟨pre, hp, hl⟩ := seq_sound M items hwi xs [] h
    rwa [hp, List.append_nil]
  · intro hl
    have := seq_complete M items hwi (hnm ▸ hnd) xs [] hl (Outside_nil _)
    rwa [List.append_nil] at this

theorem validateChildrenRaw_nil_iff {s : Spec} (hw : wfTop s = true) {nodeName : String} (hn : nodeName ≠ "metadata")
    (M : Bool) (xs : List String) : validateChildrenRaw nodeName M s xs = [] ↔ Lang true M s xs := by
  rw [← matchTop_nil_iff M hw]
  simp only [validateChildrenRaw, if_neg hn, List.append_eq_nil_iff, List.map_eq_nil_iff, List.filter_eq_nil_iff,
    ite_eq_left_iff, reduceCtorEq, imp_false, Decidable.not_not, List.isEmpty_iff]
  constructor
  · rintro ⟨⟨-, h2⟩, h3⟩
    exact Prod.ext h3 h2
  · intro hm
    refine ⟨⟨fun x hx => ?_, congrArg Prod.snd hm⟩, congrArg Prod.fst hm⟩
    -- a word of the language has no foreign name
    simpa using Lang_names_sub true M s xs ((matchTop_nil_iff M hw xs).mp hm) x hx

theorem matchTop_evs (M : Bool) (s : Spec) (hw : wfTop s = true) (xs : List String) :
    ∀ e ∈ (matchTop M s xs).2, OccEv e := by
  obtain ⟨-, items, hwi, -, hrun, -⟩ := wfTop_seq hw
  rw [hrun]
  exact gSeq_evs M items hwi xs

theorem validateChildrenRaw_evs (nodeName : String) (M : Bool) (s : Spec) (hw : wfTop s = true) (xs : List String) :
    ∀ e ∈ validateChildrenRaw nodeName M s xs, e = .err .childNotAllowed ∨ OccEv e := by
  intro e he
  by_cases hn : nodeName = "metadata"
  · rw [validateChildrenRaw, if_pos hn] at he
    exact Or.inr (Or.inr (Or.inl (List.mem_singleton.mp (List.mem_ite_nil_right.mp he).2)))
  · simp only [validateChildrenRaw, if_neg hn, List.mem_append, List.mem_map, List.mem_ite_nil_left,
      List.mem_singleton] at he
    rcases he with (⟨_, _, rfl⟩ | he) | ⟨-, rfl⟩
    · exact Or.inl rfl
    · exact Or.inr (matchTop_evs M s hw xs e he)
    · exact Or.inl rfl

theorem validateChildrenRaw_errs (nodeName : String) (M : Bool) (s : Spec) (hw : wfTop s = true) (xs : List String) :
    ∀ e ∈ validateChildrenRaw nodeName M s xs, ∃ k, e = .err k := by
  intro e he
  rcases validateChildrenRaw_evs nodeName M s hw xs e he with h | h | h | h | h <;> exact ⟨_, h⟩

end Metapype
