import MetapypeModel.Lemmas.Leaf
import MetapypeModel.Lemmas.Loop
/-
  The `for` pass of `_validate_choice` step by step (`gAlt`, `gPass_hit_eq`, `gPass_miss_eq`), and
  the facts about the matcher on the well-formed class that do not mention the language: the cursor
  only advances, a construct whose name is at the cursor consumes at least one child (hence the
  Python `while` terminates), and every reported event is an occurrence error (never a crash, never
  divergence).
-/
namespace Metapype

/-- what a `for` pass runs for an alternative whose name is at the cursor -/
def gAlt (M : Bool) : Spec → List String → List String × List Ev
  | .leaf n mn mx, xs => runLeaf n mn mx true 0 xs
  | .seq items, xs => gSeq M items xs
  | .choice alts mn mx, xs => gItem M (.choice alts mn mx) xs

theorem gPass_nil_right (M : Bool) (alts : List Spec) : gPass M alts [] = ⟨[], [], 0⟩ := by
  cases alts <;> rfl

theorem gPass_hit_eq (M : Bool) {a : Spec} (as : List Spec) {x : String} (t : List String) (h : x ∈ a.names) :
    gPass M (a :: as) (x :: t) =
      ⟨(gPass M as (gAlt M a (x :: t)).1).rest, (gAlt M a (x :: t)).2 ++ (gPass M as (gAlt M a (x :: t)).1).evs,
        (gPass M as (gAlt M a (x :: t)).1).occ + 1⟩ := by
  cases a with
  | leaf n mn mx => exact if_pos (List.mem_singleton.mp h)
  | seq items => exact if_pos (List.contains_iff_mem.mpr h)
  | choice alts mn mx => exact if_pos (List.contains_iff_mem.mpr h)

theorem gPass_miss_eq (M : Bool) {a : Spec} (as : List Spec) {x : String} (t : List String) (h : x ∉ a.names) :
    gPass M (a :: as) (x :: t) = gPass M as (x :: t) := by
  cases a with
  | leaf n mn mx => exact if_neg fun e => h (List.mem_singleton.mpr e)
  | seq items => exact if_neg fun hc => h (List.contains_iff_mem.mp hc)
  | choice alts mn mx => exact if_neg fun hc => h (List.contains_iff_mem.mp hc)

theorem gPass_skip (M : Bool) (alts : List Spec) (xs : List String) (h : Outside (Spec.namesL alts) xs) :
    gPass M alts xs = ⟨xs, [], 0⟩ := by
  induction alts with
  | nil => rfl
  | cons a as ih =>
    cases xs with
    | nil => exact gPass_nil_right M _
    | cons x t =>
      have hx : x ∉ a.names ++ Spec.namesL as := h x rfl
      rw [gPass_miss_eq M as t (fun hm => hx (List.mem_append_left _ hm))]
      exact ih (Outside_append_left (pre := []) (fun hm => hx (List.mem_append_right _ hm)))

mutual
theorem gItem_suffix (M : Bool) : ∀ (s : Spec) (xs : List String), (gItem M s xs).1 <:+ xs
  | .leaf n mn mx, xs => runLeaf_isSuffix n mn mx false 0 xs
  | .choice alts _ _, _ => loopW_suffix _ _ (fun ys => gPass_suffix M alts ys) _ _
  | .seq _, _ => List.suffix_refl _
theorem gSeq_suffix (M : Bool) : ∀ (items : List Spec) (xs : List String), (gSeq M items xs).1 <:+ xs
  | [], _ => List.suffix_refl _
  | s :: ss, xs => List.IsSuffix.trans (gSeq_suffix M ss _) (gItem_suffix M s xs)
theorem gAlt_suffix (M : Bool) : ∀ (a : Spec) (xs : List String), (gAlt M a xs).1 <:+ xs
  | .leaf n mn mx, xs => runLeaf_isSuffix n mn mx true 0 xs
  | .seq items, xs => gSeq_suffix M items xs
  | .choice alts _ _, _ => loopW_suffix _ _ (fun ys => gPass_suffix M alts ys) _ _
theorem gPass_suffix (M : Bool) : ∀ (alts : List Spec) (xs : List String), (gPass M alts xs).rest <:+ xs
  | [], _ => List.suffix_refl _
  | _ :: _, [] => by
    rw [gPass_nil_right]
    exact List.suffix_refl _
  | a :: as, x :: t => by
    by_cases hx : x ∈ a.names
    · rw [gPass_hit_eq M as t hx]
      exact List.IsSuffix.trans (gPass_suffix M as _) (gAlt_suffix M a _)
    · rw [gPass_miss_eq M as t hx]
      exact gPass_suffix M as _
end

theorem suffix_lt_or_eq {α : Type} {a b : List α} (h : a <:+ b) : a.length < b.length ∨ a = b :=
  (Nat.lt_or_ge a.length b.length).imp_right h.eq_of_length_le

mutual
theorem gItem_prog (M : Bool) : ∀ (s : Spec), wfItem s = true → ∀ (x : String) (t : List String),
    x ∈ s.names → (gItem M s (x :: t)).1.length < (x :: t).length
  | .leaf n mn mx => fun _ x t hx => by
    obtain rfl : x = n := List.mem_singleton.mp hx
    exact runLeaf_head_shorter x mn mx false 0 t
  | .choice alts _ _ => fun hw x t hx =>
    loopW_prog _ (gPass_suffix M alts) _ hx (gPass_prog M alts (wfItem_choice_alts hw) x t hx)
  | .seq _ => fun hw => by simp [wfItem] at hw
theorem gSeq_prog (M : Bool) : ∀ (items : List Spec), wfItems items = true → ∀ (x : String) (t : List String),
    x ∈ Spec.namesL items → (gSeq M items (x :: t)).1.length < (x :: t).length
  | [] => fun _ _ _ hx => nomatch hx
  | s :: ss => fun hw x t hx => by
    simp only [wfItems, Bool.and_eq_true] at hw
    have hs2 : (gSeq M (s :: ss) (x :: t)).1.length ≤ (gItem M s (x :: t)).1.length :=
      (gSeq_suffix M ss _).length_le
    rcases suffix_lt_or_eq (gItem_suffix M s (x :: t)) with hlt | heq
    · exact Nat.lt_of_le_of_lt hs2 hlt
    · -- the first item did not move, so the name at the cursor is not one of its names but of a later item's
      rcases List.mem_append.mp hx with hx | hx
      · exact absurd (heq ▸ gItem_prog M s hw.1 x t hx) (Nat.lt_irrefl _)
      · show (gSeq M ss (gItem M s (x :: t)).1).1.length < _
        rw [heq]
        exact gSeq_prog M ss hw.2 x t hx
theorem gAlt_prog (M : Bool) : ∀ (a : Spec), wfAlt a = true → ∀ (x : String) (t : List String),
    x ∈ a.names → (gAlt M a (x :: t)).1.length < (x :: t).length
  | .leaf n mn mx => fun _ x t hx => by
    obtain rfl : x = n := List.mem_singleton.mp hx
    exact runLeaf_head_shorter x mn mx true 0 t
  | .seq items => gSeq_prog M items
  | .choice _ _ _ => fun hw => by cases hw
theorem gPass_prog (M : Bool) : ∀ (alts : List Spec), wfAlts alts = true → ∀ (x : String) (t : List String),
    x ∈ Spec.namesL alts → (gPass M alts (x :: t)).rest.length < (x :: t).length
  | [] => fun _ _ _ hx => nomatch hx
  | a :: as => fun hw x t hx => by
    rw [wfAlts_cons, Bool.and_eq_true] at hw
    by_cases hxa : x ∈ a.names
    · rw [gPass_hit_eq M as t hxa]
      exact Nat.lt_of_le_of_lt (gPass_suffix M as _).length_le (gAlt_prog M a hw.1 x t hxa)
    · rw [gPass_miss_eq M as t hxa]
      exact gPass_prog M as hw.2 x t ((List.mem_append.mp hx).resolve_left hxa)
end

def OccEv (e : Ev) : Prop :=
  e = .err .minOcc ∨ e = .err .maxOcc ∨ e = .err .minChoice ∨ e = .err .maxChoice

theorem runLeaf_evs (n : String) (mn : Nat) (mx : Option Nat) (lim : Bool) (occ : Nat) (xs : List String) :
    ∀ e ∈ (runLeaf n mn mx lim occ xs).2, OccEv e := by
  induction occ, xs using runLeaf_induct n mn mx lim with
  | nil | other => exact fun e he => Or.inl (List.mem_singleton.mp (List.mem_ite_nil_right.mp he).2)
  | limit => exact fun _ he => nomatch he
  | over _ _ _ _ ih =>
    intro e he
    rcases List.mem_cons.mp he with he | he
    · exact Or.inr (Or.inl he)
    · exact ih e he
  | more _ _ _ _ ih => exact ih

theorem finishChoice_evs (mixed : Bool) (mn : Nat) (mx : Option Nat) (occ : Nat) :
    ∀ e ∈ finishChoice mixed mn mx occ, OccEv e := by
  intro e he
  simp only [finishChoice, List.mem_append, List.mem_ite_nil_right, List.mem_singleton] at he
  rcases he with ⟨-, rfl⟩ | ⟨-, rfl⟩
  · exact Or.inr (Or.inr (Or.inr rfl))
  · exact Or.inr (Or.inr (Or.inl rfl))

mutual
theorem gItem_evs (M : Bool) : ∀ (s : Spec), wfItem s = true → ∀ (xs : List String), ∀ e ∈ (gItem M s xs).2, OccEv e
  | .leaf n mn mx => fun _ => runLeaf_evs n mn mx false 0
  | .choice alts mn mx => fun hw xs =>
    have hwa := wfItem_choice_alts hw
    List.forall_mem_append.mpr
      ⟨loopW_events _ _ OccEv (gPass_evs M alts hwa) (gPass_prog M alts hwa) _ xs (Nat.lt_succ_self _),
       finishChoice_evs M mn mx _⟩
  | .seq _ => fun hw => by simp [wfItem] at hw
theorem gSeq_evs (M : Bool) : ∀ (items : List Spec), wfItems items = true → ∀ (xs : List String), ∀ e ∈ (gSeq M items xs).2, OccEv e
  | [] => fun _ _ _ he => nomatch he
  | s :: ss => fun hw xs => by
    simp only [wfItems, Bool.and_eq_true] at hw
    exact List.forall_mem_append.mpr ⟨gItem_evs M s hw.1 xs, gSeq_evs M ss hw.2 _⟩
theorem gAlt_evs (M : Bool) : ∀ (a : Spec), wfAlt a = true → ∀ (xs : List String), ∀ e ∈ (gAlt M a xs).2, OccEv e
  | .leaf n mn mx => fun _ => runLeaf_evs n mn mx true 0
  | .seq items => gSeq_evs M items
  | .choice _ _ _ => fun hw => by cases hw
theorem gPass_evs (M : Bool) : ∀ (alts : List Spec), wfAlts alts = true → ∀ (xs : List String), ∀ e ∈ (gPass M alts xs).evs, OccEv e
  | [], _, _ => fun _ he => nomatch he
  | _ :: _, _, [] => by
    rw [gPass_nil_right]
    exact fun _ he => nomatch he
  | a :: as, hw, x :: t => by
    rw [wfAlts_cons, Bool.and_eq_true] at hw
    by_cases hx : x ∈ a.names
    · rw [gPass_hit_eq M as t hx]
      exact List.forall_mem_append.mpr ⟨gAlt_evs M a hw.1 _, gPass_evs M as hw.2 _⟩
    · rw [gPass_miss_eq M as t hx]
      exact gPass_evs M as hw.2 _
end

theorem gPass_leafLow (M : Bool) (alts : List Spec) (h : alts.all leafAltLowOK = true) (xs : List String) :
    (gPass M alts xs).evs = [] := by
  induction alts generalizing xs with
  | nil => rfl
  | cons a as ih =>
    simp only [List.all_cons, Bool.and_eq_true] at h
    cases xs with
    | nil => rw [gPass_nil_right]
    | cons x t =>
      by_cases hx : x ∈ a.names
      · rw [gPass_hit_eq M as t hx]
        cases a with
        | leaf n mn mx =>
          obtain rfl : x = n := List.mem_singleton.mp hx
          obtain ⟨hb1, hb3⟩ := leafLow_bounds h.1
          show (runLeaf x mn mx true 0 (x :: t)).2 ++ _ = []
          rw [runLeaf_lim_noerr x mn mx 0 (x :: t) hb3 (Or.inr ⟨hb1, rfl⟩), ih h.2]
          rfl
        | seq _ | choice _ _ _ => cases h.1
      · rw [gPass_miss_eq M as t hx]
        exact ih h.2 _

theorem loopW_leafLow (M : Bool) (alts : List Spec) (h : alts.all leafAltLowOK = true) (xs : List String) :
    (loopW (Spec.namesL alts) (fun ys => gPass M alts ys) (xs.length + 1) xs).evs = [] :=
  List.eq_nil_iff_forall_not_mem.mpr fun e he =>
    loopW_events _ _ (fun _ => False) (fun ys e he => by rw [gPass_leafLow M alts h ys] at he; cases he)
      (gPass_prog M alts (wfAlts_of_all_low alts h)) _ xs (Nat.lt_succ_self _) e he

end Metapype
