import MetapypeModel.Model.NsHeap
/- what `setNs`, `setCell` and `alloc` leave to be read from the heap; heap extensionality -/
namespace Metapype

namespace NsHeap
variable (H : NsHeap) (n r : Nat) (d : Dict)
@[simp] theorem ns_setNs (m : Nat) : (H.setNs n r).ns m = if m = n then r else H.ns m := rfl
@[simp] theorem cell_setNs : (H.setNs n r).cell = H.cell := rfl
@[simp] theorem next_setNs : (H.setNs n r).next = H.next := rfl
@[simp] theorem kids_setNs : (H.setNs n r).kids = H.kids := rfl
@[simp] theorem ns_setCell : (H.setCell r d).ns = H.ns := rfl
@[simp] theorem cell_setCell (q : Nat) : (H.setCell r d).cell q = if q = r then d else H.cell q := rfl
@[simp] theorem next_setCell : (H.setCell r d).next = H.next := rfl
@[simp] theorem kids_setCell : (H.setCell r d).kids = H.kids := rfl
@[simp] theorem alloc_snd : (H.alloc d).2 = H.next := rfl
@[simp] theorem ns_alloc : (H.alloc d).1.ns = H.ns := rfl
@[simp] theorem cell_alloc (q : Nat) : (H.alloc d).1.cell q = if q = H.next then d else H.cell q := rfl
@[simp] theorem next_alloc : (H.alloc d).1.next = H.next + 1 := rfl
@[simp] theorem kids_alloc : (H.alloc d).1.kids = H.kids := rfl
@[simp] theorem nsmapOf_setNs_self : (H.setNs n r).nsmapOf n = H.cell r := by simp [nsmapOf]
@[simp] theorem nsmapOf_setCell_self : (H.setCell (H.ns n) d).nsmapOf n = d := by simp [nsmapOf]

theorem ext {H H' : NsHeap} (hk : H.kids = H'.kids) (hn : H.ns = H'.ns) (hc : H.cell = H'.cell) (hx : H.next = H'.next) :
    H = H' := by
  cases H
  cases H'
  simp only [mk.injEq]
  exact ⟨hk, hn, hc, hx⟩

theorem setNs_self (c : Nat) : H.setNs c (H.ns c) = H :=
  ext rfl (funext fun _ => ite_eq_right_iff.mpr fun e => e ▸ rfl) rfl rfl
end NsHeap

end Metapype
