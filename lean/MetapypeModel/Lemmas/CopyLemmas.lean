import MetapypeModel.Model.CopyParents
/-
  `Node.copy` on a tree and on a child list at once, by the induction principle of the copy function itself.
-/
namespace Metapype

theorem copy_draws_both (u : Nat → String) :
    (∀ (t : OTree) (s : Supply), ∃ k j, (copyO u t s).2 = ⟨s.tag + k, s.uid + j⟩ ∧
      (copyO u t s).1.tags = List.range' s.tag k ∧ (copyO u t s).1.ids = (List.range' s.uid j).map u) ∧
    (∀ (cs : List OTree) (s : Supply), ∃ k j, (copyL u cs s).2 = ⟨s.tag + k, s.uid + j⟩ ∧
      OTree.tagsL (copyL u cs s).1 = List.range' s.tag k ∧ OTree.idsL (copyL u cs s).1 = (List.range' s.uid j).map u) := by
  refine copyO.mutual_induct u _ _ ?_ ?_ ?_
  · intro i n c tl p o ar er nr kr a e ns cs s ih      -- a node
    obtain ⟨k, j, h1, h2, h3⟩ := ih
    refine ⟨5 + k, 1 + j, ?_, ?_, ?_⟩
    · rw [copyO, h1, ← Nat.add_assoc, ← Nat.add_assoc]
    · rw [copyO, OTree.tags, h2, ← List.range'_append_1]
      rfl
    · rw [copyO, OTree.ids, h3, ← List.range'_append_1]
      rfl
  · intro s                                            -- no children
    exact ⟨0, 0, rfl, rfl, rfl⟩
  · intro c cs s                                       -- a child and its later siblings
    dsimp only
    intro ihc ihcs
    obtain ⟨k₁, j₁, a1, a2, a3⟩ := ihc
    obtain ⟨k₂, j₂, b1, b2, b3⟩ := ihcs
    refine ⟨k₁ + k₂, j₁ + j₂, ?_, ?_, ?_⟩
    · rw [copyL, b1, a1, Nat.add_assoc, Nat.add_assoc]
    · rw [copyL, OTree.tagsL, a2, b2, a1, ← List.range'_append_1]
    · rw [copyL, OTree.idsL, a3, b3, a1, ← List.map_append, ← List.range'_append_1]

theorem copy_value_both (u : Nat → String) :
    (∀ (t : OTree) (s : Supply), (copyO u t s).1.value = t.value) ∧
    (∀ (cs : List OTree) (s : Supply), OTree.valueL (copyL u cs s).1 = OTree.valueL cs) := by
  refine copyO.mutual_induct u _ _ ?_ ?_ ?_
  · intro i n c tl p o ar er nr kr a e ns cs s ih      -- a node
    rw [copyO, OTree.value, ih, OTree.value]
  · intro s                                            -- no children
    rfl
  · intro c cs s                                       -- a child and its later siblings
    dsimp only
    intro ihc ihcs
    rw [copyL, OTree.valueL, ihc, ihcs, OTree.valueL]

theorem applyEdit_untouched_both (ed : Edit) :
    (∀ t : OTree, ed.target ∉ t.tags → t.apply ed = t) ∧
    (∀ cs : List OTree, ed.target ∉ OTree.tagsL cs → OTree.applyL ed cs = cs) := by
  refine OTree.apply.mutual_induct ed _ _ ?_ ?_ ?_
  · intro i n c tl p o ar er nr kr a e ns cs ih h      -- a node
    simp only [OTree.tags, List.cons_append, List.nil_append, List.mem_cons, not_or] at h
    obtain ⟨_, h2, h3, h4, h5, h6⟩ := h
    cases ed with
    | setDict r d =>
      simp only [OTree.apply, Edit.target] at h2 h3 h4 ⊢
      rw [if_neg h2, if_neg h3, if_neg h4, ih h6]
    | appendChild r k =>
      simp only [OTree.apply, Edit.target] at h5 ⊢
      rw [if_neg h5, ih h6]
  · intro _                                            -- no children
    rfl
  · intro c cs ihc ihcs h                              -- a child and its later siblings
    simp only [OTree.tagsL, List.mem_append, not_or] at h
    rw [OTree.applyL, ihc h.1, ihcs h.2]

theorem ParentsOK_setParent {t : PTree} {p : Option Nat} (h : ParentsOK t) : ParentsOK (t.setParent p) := by
  cases t
  exact h

theorem copyP_parentsOK_both :
    (∀ (t : PTree) (s : Nat), ParentsOK (copyP t s).1) ∧ (∀ (ks : List PTree) (s np : Nat), ParentsOKL np (copyPL ks s np).1) := by
  refine copyP.mutual_induct _ _ ?_ ?_ ?_
  · intro o par ks s ih                                -- a node
    exact ih
  · intro s np                                         -- no children
    trivial
  · intro k ks s np                                    -- a child and its later siblings
    dsimp only
    intro ihk ihks
    refine ⟨?_, ParentsOK_setParent ihk, ihks⟩
    cases (copyP k s).1
    rfl

end Metapype
