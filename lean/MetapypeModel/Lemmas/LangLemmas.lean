import MetapypeModel.Model.Lang
/- the declarative language (`Lang`, `RepOf`): the names of a word, occurrences put together and taken apart;
   the syntactic class `wfTop` read alternative by alternative -/
namespace Metapype

theorem RepOf_names_sub {strict : Bool} {A : List String → Prop} {nm : List String}
    (hA : ∀ w, A w → ∀ x ∈ w, x ∈ nm) (k : Nat) (w : List String) (h : RepOf strict A k w) : ∀ x ∈ w, x ∈ nm := by
  induction k generalizing w with
  | zero => exact (h : w = []) ▸ fun _ hx => nomatch hx
  | succ k ih =>
    obtain ⟨w₁, w₂, rfl, h1, _, h2⟩ := h
    exact fun x hx => (List.mem_append.mp hx).elim (hA w₁ h1 x) (ih w₂ h2 x)

theorem RepOf_imp {s s' : Bool} {A B : List String → Prop} (hs : s' = true → s = true) (hAB : ∀ w, A w → B w)
    (k : Nat) (w : List String) (h : RepOf s A k w) : RepOf s' B k w := by
  induction k generalizing w with
  | zero => exact h
  | succ k ih =>
    obtain ⟨w₁, w₂, hw, h1, hne, h2⟩ := h
    exact ⟨w₁, w₂, hw, hAB w₁ h1, fun h => hne (hs h), ih w₂ h2⟩

theorem RepOf_append {s : Bool} {A : List String → Prop} (j k : Nat) (u v : List String)
    (hu : RepOf s A j u) (hv : RepOf s A k v) : RepOf s A (j + k) (u ++ v) := by
  induction j generalizing u with
  | zero =>
    rw [(hu : u = []), Nat.zero_add]
    exact hv
  | succ j ih =>
    obtain ⟨w₁, w₂, hw, h1, hne, h2⟩ := hu
    rw [Nat.add_right_comm]
    exact ⟨w₁, w₂ ++ v, by rw [hw, List.append_assoc], h1, hne, ih w₂ h2⟩

theorem RepOf_zero_iff {A : List String → Prop} {k : Nat} {w : List String} (h : RepOf true A k w) : k = 0 ↔ w = [] := by
  cases k with
  | zero => exact ⟨fun _ => h, fun _ => rfl⟩
  | succ k =>
    obtain ⟨_, _, hw, _, hne, _⟩ := h
    exact ⟨nofun, fun h0 => absurd (List.append_eq_nil_iff.mp (hw.symm.trans h0)).1 (hne rfl)⟩

theorem RepOf_one {A : List String → Prop} {w : List String} (h : A w) (hne : w ≠ []) : RepOf true A 1 w :=
  ⟨w, [], (List.append_nil w).symm, h, fun _ => hne, rfl⟩

theorem RepOf_le_one {A : List String → Prop} {k : Nat} {w : List String} (h : RepOf true A k w) (hk : k ≤ 1) :
    (k = 0 ∧ w = []) ∨ (k = 1 ∧ A w ∧ w ≠ []) := by
  obtain rfl | rfl := Nat.le_one_iff_eq_zero_or_eq_one.mp hk
  · exact Or.inl ⟨rfl, h⟩
  · obtain ⟨w₁, _, hw, h1, hne, rfl⟩ := h
    rw [List.append_nil] at hw
    exact Or.inr ⟨rfl, hw ▸ h1, hw ▸ hne rfl⟩

mutual
theorem Lang_names_sub (strict mixed : Bool) : ∀ (s : Spec) (w : List String), Lang strict mixed s w → ∀ x ∈ w, x ∈ s.names
  | .leaf _ _ _ => fun _ ⟨_, _, _, hw⟩ _ hx => List.mem_singleton.mpr (List.mem_replicate.mp (hw ▸ hx)).2
  | .seq items => LangSeq_names_sub strict mixed items
  | .choice alts _ _ => fun w ⟨k, hrep, _, _⟩ =>
    RepOf_names_sub (fun v hv => LangAlt_names_sub strict mixed alts v hv) k w hrep
theorem LangSeq_names_sub (strict mixed : Bool) : ∀ (items : List Spec) (w : List String), LangSeq strict mixed items w → ∀ x ∈ w, x ∈ Spec.namesL items
  | [] => fun _ hw _ hx => nomatch (hw : _ = []) ▸ hx
  | s :: ss => fun _ ⟨w₁, w₂, hw, h1, h2⟩ x hx =>
    List.mem_append.mpr ((List.mem_append.mp (hw ▸ hx)).imp (Lang_names_sub strict mixed s w₁ h1 x)
      (LangSeq_names_sub strict mixed ss w₂ h2 x))
theorem LangAlt_names_sub (strict mixed : Bool) : ∀ (alts : List Spec) (w : List String), LangAlt strict mixed alts w → ∀ x ∈ w, x ∈ Spec.namesL alts
  | [] => fun _ h => nomatch h
  | a :: as => fun w h x hx =>
    List.mem_append.mpr (h.imp (fun h => Lang_names_sub strict mixed a w h x hx)
      (fun h => LangAlt_names_sub strict mixed as w h x hx))
end

/-- one alternative of an at-most-one choice: the head case of `wfAlts` -/
def wfAlt : Spec → Bool
  | .leaf _ mn mx => leafAltOK.boundsOKLeaf mn mx
  | .seq items => wfItems items
  | .choice _ _ _ => false

theorem wfAlts_cons (a : Spec) (as : List Spec) : wfAlts (a :: as) = (wfAlt a && wfAlts as) := by
  cases a <;> simp only [wfAlts, wfAlt, Bool.false_and]

theorem leafItemOK_of_alt {mn : Nat} {mx : Option Nat} (h : leafAltOK.boundsOKLeaf mn mx = true) : leafItemOK mn mx = true := by
  cases mx with
  | none => rfl
  | some m =>
    simp only [leafAltOK.boundsOKLeaf, Bool.and_eq_true] at h
    exact h.1

theorem leafLow_bounds {n : String} {mn : Nat} {mx : Option Nat} (h : leafAltLowOK (.leaf n mn mx) = true) :
    mn ≤ 1 ∧ withinMax 1 mx := by
  simp only [leafAltLowOK, Bool.and_eq_true, decide_eq_true_eq] at h
  refine ⟨h.1, ?_⟩
  cases mx with
  | none => trivial
  | some m => simp only [leafAltOK.boundsOKLeaf, Bool.and_eq_true, decide_eq_true_eq] at h; exact h.2.2

theorem wfAlts_of_all_low (alts : List Spec) (h : alts.all leafAltLowOK = true) : wfAlts alts = true := by
  induction alts with
  | nil => rfl
  | cons a as ih =>
    simp only [List.all_cons, Bool.and_eq_true] at h
    rw [wfAlts_cons, ih h.2, Bool.and_true]
    cases a with
    | leaf n mn mx =>
      simp only [leafAltLowOK, Bool.and_eq_true] at h
      exact h.1.2
    | seq items => cases h.1
    | choice alts mn mx => cases h.1

theorem wfItem_choice_alts {alts : List Spec} {mn : Nat} {mx : Option Nat}
    (h : wfItem (.choice alts mn mx) = true) : wfAlts alts = true := by
  simp only [wfItem, Bool.and_eq_true] at h
  cases mx with
  | none => exact wfAlts_of_all_low alts h.2
  | some m => simp only [Bool.and_eq_true] at h; exact h.2.2

theorem leafAlts_single (M : Bool) (alts : List Spec) (h : alts.all leafAltLowOK = true) (x : String)
    (hx : x ∈ Spec.namesL alts) : LangAlt true M alts [x] := by
  induction alts with
  | nil => nomatch hx
  | cons a as ih =>
    simp only [List.all_cons, Bool.and_eq_true] at h
    cases a with
    | leaf n mn mx =>
      obtain ⟨hb1, hb3⟩ := leafLow_bounds h.1
      by_cases hxn : x = n
      · exact Or.inl ⟨1, hb1, hb3, by rw [hxn]; rfl⟩
      · exact Or.inr (ih h.2 ((List.mem_append.mp hx).resolve_left (by simpa [Spec.names] using hxn)))
    | seq _ => cases h.1
    | choice _ _ _ => cases h.1

theorem leafAlts_rep (M : Bool) (alts : List Spec) (hall : alts.all leafAltLowOK = true) (w : List String)
    (h : ∀ x ∈ w, x ∈ Spec.namesL alts) : RepOf true (fun v => LangAlt true M alts v) w.length w := by
  induction w with
  | nil => rfl
  | cons x w ih =>
    exact ⟨[x], w, rfl, leafAlts_single M alts hall x (h x List.mem_cons_self), fun _ => List.cons_ne_nil _ _,
      ih fun y hy => h y (List.mem_cons_of_mem _ hy)⟩

end Metapype
