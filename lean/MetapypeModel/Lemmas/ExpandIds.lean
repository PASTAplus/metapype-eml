import MetapypeModel.Model.Expand
import MetapypeModel.Lemmas.TreeLemmas
import MetapypeModel.Lemmas.ListLemmas
/-
  Reference expansion (C16): what `substL` does with one child, stated once, and the node ids through expansion: the
  substituted copies get ids from the supply, in order; every other node of the result is a node of the original with its id.
  Stated with `List.count` so that freshness/uniqueness follow by arithmetic.
-/
namespace Metapype

theorem expandT_eq_some {u : Nat → String} {root t' : Tree} {s : Nat} (h : expandT u root s = some t') :
    t' = (substT u (idsOf root) root s).1 := by
  simp only [expandT, Option.ite_none_left_eq_some, Option.some.injEq] at h
  exact h.2.2.symm

/-- the children of the element that a `references` node with content `c` names (none when it names nothing) -/
def refKids (ids : List (String × Tree)) (c : Option String) : List Tree :=
  match c.bind (lookupId ids) with
  | some t => t.children
  | none => []

theorem refKids_some {ids : List (String × Tree)} {k : String} {R : Tree} (h : lookupId ids k = some R) :
    refKids ids (some k) = R.children := by
  simp only [refKids, Option.bind_some, h]

theorem substL_ref (u : Nat → String) (ids : List (String × Tree)) (i : String) (c tl p : Option String) (a e ns : Dict)
    (ks cs : List Tree) (s : Nat) :
    substL u ids (.mk i "references" c tl p a e ns ks :: cs) s =
      let copies := freshCopyL u (refKids ids c) s
      let rest := substL u ids cs copies.2
      (copies.1 ++ rest.1, rest.2) := by
  cases c with
  | none => simp [substL, refKids, freshCopyL]
  | some k => cases h : lookupId ids k <;> simp [substL, refKids, freshCopyL, h]

theorem substL_other (u : Nat → String) (ids : List (String × Tree)) {n : String} (hn : n ≠ "references") (i : String)
    (c tl p : Option String) (a e ns : Dict) (ks cs : List Tree) (s : Nat) :
    substL u ids (.mk i n c tl p a e ns ks :: cs) s =
      let kids := substL u ids ks s
      let rest := substL u ids cs kids.2
      (.mk i n c tl p a e ns kids.1 :: rest.1, rest.2) := by
  simp [substL, substT, hn]

def drawn (u : Nat → String) (s s2 : Nat) : List String := (List.range' s (s2 - s)).map u

theorem drawn_split {u : Nat → String} {s s1 s2 : Nat} (h1 : s ≤ s1) (h2 : s1 ≤ s2) :
    drawn u s s2 = drawn u s s1 ++ drawn u s1 s2 := by
  obtain ⟨m, rfl⟩ := Nat.exists_eq_add_of_le h1
  obtain ⟨n, rfl⟩ := Nat.exists_eq_add_of_le h2
  simp only [drawn, ← List.map_append, Nat.add_assoc, Nat.add_sub_add_left, Nat.add_sub_cancel_left, List.range'_append_1]

@[simp] theorem drawn_self (u : Nat → String) (s : Nat) : drawn u s s = [] := by simp [drawn]

theorem drawn_succ {u : Nat → String} {s s2 : Nat} (h : s + 1 ≤ s2) : drawn u s s2 = u s :: drawn u (s + 1) s2 := by
  rw [drawn_split (Nat.le_succ s) h]
  simp [drawn]

theorem drawn_nodup (u : Nat → String) (hu : Function.Injective u) (s s2 : Nat) : (drawn u s s2).Nodup :=
  nodup_map_range' u hu _ _

theorem mem_drawn {u : Nat → String} {s s2 : Nat} {x : String} (h : x ∈ drawn u s s2) : ∃ k, s ≤ k ∧ x = u k :=
  mem_map_range' h

theorem freshCopy_ids_both (u : Nat → String) :
    (∀ (t : Tree) (s : Nat), s + 1 ≤ (freshCopy u t s).2 ∧ (freshCopy u t s).1.ids = drawn u s (freshCopy u t s).2) ∧
    ∀ (cs : List Tree) (s : Nat), s ≤ (freshCopyL u cs s).2 ∧ Tree.idsL (freshCopyL u cs s).1 = drawn u s (freshCopyL u cs s).2 := by
  apply Tree.induct₂
  case mk =>
    intro i n c tl p a e ns cs ih s
    have ih := ih (s + 1)
    simp only [freshCopy, ids_mk]
    exact ⟨ih.1, by rw [drawn_succ ih.1, ih.2]⟩
  case nil => intro s; simp [freshCopyL]
  case cons =>
    intro c cs h1 h2 s
    have h1 := h1 s
    have h2 := h2 (freshCopy u c s).2
    have hs := Nat.le_of_succ_le h1.1
    simp only [freshCopyL, idsL_cons]
    exact ⟨Nat.le_trans hs h2.1, by rw [drawn_split hs h2.1, h1.2, h2.2]⟩

theorem freshCopy_ids (u : Nat → String) : ∀ (t : Tree) (s : Nat),
    s + 1 ≤ (freshCopy u t s).2 ∧ (freshCopy u t s).1.ids = drawn u s (freshCopy u t s).2 :=
  (freshCopy_ids_both u).1

mutual
/-- the ids of the `references` subtrees that expansion discards below a node -/
def refIdsT : Tree → List String
  | .mk _ _ _ _ _ _ _ _ cs => refIdsL cs
def refIdsL : List Tree → List String
  | [] => []
  | .mk i n c tl p a e ns ks :: cs =>
      if n = "references" then (Tree.mk i n c tl p a e ns ks).ids ++ refIdsL cs else refIdsL ks ++ refIdsL cs
end

theorem substL_ids (u : Nat → String) (ids : List (String × Tree)) (x : String) (cs : List Tree) : ∀ (s : Nat),
    s ≤ (substL u ids cs s).2 ∧
    (Tree.idsL (substL u ids cs s).1).count x + (refIdsL cs).count x =
      (Tree.idsL cs).count x + (drawn u s (substL u ids cs s).2).count x := by
  induction cs using Tree.inductL with
  | nil => intro s; simp [substL, refIdsL]
  | cons i n c tl p a e ns ks cs ihk ihc =>
    intro s
    by_cases hn : n = "references"
    · subst hn
      have hc := (freshCopy_ids_both u).2 (refKids ids c) s
      have ih := ihc (freshCopyL u (refKids ids c) s).2
      simp only [substL_ref, refIdsL, if_true, idsL_append, idsL_cons, List.count_append]
      refine ⟨Nat.le_trans hc.1 ih.1, ?_⟩
      rw [drawn_split hc.1 ih.1, List.count_append, hc.2]
      omega
    · have h1 := ihk s
      have h2 := ihc (substL u ids ks s).2
      simp only [substL_other u ids hn, refIdsL, if_neg hn, idsL_cons, ids_mk, List.count_append, List.count_cons]
      refine ⟨Nat.le_trans h1.1 h2.1, ?_⟩
      rw [drawn_split h1.1 h2.1, List.count_append]
      omega

theorem substL_ids_exact (u : Nat → String) (ids : List (String × Tree)) (x : String) : ∀ (cs : List Tree) (s : Nat),
    (Tree.idsL (substL u ids cs s).1).count x + (refIdsL cs).count x =
      (Tree.idsL cs).count x + (drawn u s (substL u ids cs s).2).count x :=
  fun cs s => (substL_ids u ids x cs s).2

theorem substT_ids_exact (u : Nat → String) (ids : List (String × Tree)) (x : String) (t : Tree) (s : Nat) :
    (substT u ids t s).1.ids.count x + (refIdsT t).count x = t.ids.count x + (drawn u s (substT u ids t s).2).count x := by
  cases t with
  | mk i n c tl p a e ns cs =>
    simp only [substT, ids_mk, List.count_cons, refIdsT]
    rw [Nat.add_right_comm, substL_ids_exact, Nat.add_right_comm]

mutual
def refTreesT : Tree → List Tree
  | .mk _ _ _ _ _ _ _ _ cs => refTreesL cs
def refTreesL : List Tree → List Tree
  | [] => []
  | .mk i n c tl p a e ns ks :: cs =>
      if n = "references" then Tree.mk i n c tl p a e ns ks :: refTreesL cs else refTreesL ks ++ refTreesL cs
end

theorem refIdsL_eq (cs : List Tree) : refIdsL cs = (refTreesL cs).flatMap Tree.ids := by
  induction cs using Tree.inductL with
  | nil => simp [refIdsL, refTreesL]
  | cons i n c tl p a e ns ks cs ihk ihc =>
    simp only [refIdsL, refTreesL]
    split
    · rw [List.flatMap_cons, ihc]
    · rw [List.flatMap_append, ihk, ihc]

theorem refIdsT_eq (t : Tree) : refIdsT t = (refTreesT t).flatMap Tree.ids := by
  cases t with
  | mk i n c tl p a e ns cs => simp only [refIdsT, refTreesT, refIdsL_eq cs]

theorem refIdsL_sublist (cs : List Tree) : (refIdsL cs).Sublist (Tree.idsL cs) := by
  induction cs using Tree.inductL with
  | nil => simp [refIdsL]
  | cons i n c tl p a e ns ks cs ihk ihc =>
    simp only [refIdsL, idsL_cons]
    split
    · exact (List.Sublist.refl _).append ihc
    · rw [ids_mk]; exact (ihk.cons i).append ihc

theorem refIdsT_sublist (t : Tree) : (refIdsT t).Sublist t.ids := by
  cases t with
  | mk i n c tl p a e ns cs => rw [refIdsT, ids_mk]; exact (refIdsL_sublist cs).cons i

end Metapype
