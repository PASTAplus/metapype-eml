import MetapypeModel.Lemmas.RegistryLemmas
import MetapypeModel.Lemmas.PruneAccount
/-
  The registry side of discarding operations (C14 ∘ C15): `delete_node_instance` on a subtree whose ids are registered and
  pairwise distinct never raises, and `prune` — which calls it once for every removed subtree — leaves registered, among the
  nodes of the tree, exactly the kept ones.
-/
namespace Metapype

/-- the ids being pairwise distinct, what was deleted before never includes an id still to come -/
theorem delTree_ok_both :
    (∀ (t : IdTree) (R : Registry), (∀ i ∈ t.ids, i ∈ R.keys) → t.ids.Nodup → ∃ R', R.delTree t = some R') ∧
    ∀ (ks : List IdTree) (R : Registry), (∀ i ∈ IdTree.idsL ks, i ∈ R.keys) → (IdTree.idsL ks).Nodup →
      ∃ R', R.delTreeL ks = some R' := by
  apply IdTree.induct₂
  case mk =>
    intro i o ks ih R hsub hnd
    simp only [IdTree.ids, List.nodup_cons] at hnd
    simp only [IdTree.ids, List.mem_cons] at hsub
    obtain ⟨R1, h1⟩ := ih R (fun j hj => hsub j (Or.inr hj)) hnd.2
    have hi : i ∈ R1.keys := (delTreeL_keys_iff h1 i).mpr ⟨hsub i (Or.inl rfl), hnd.1⟩
    simp only [Registry.delTree, h1, Registry.del]
    rw [if_pos (by simpa using hi)]
    exact ⟨_, rfl⟩
  case nil => exact fun R _ _ => ⟨R, rfl⟩
  case cons =>
    intro t ts iht ihts R hsub hnd
    simp only [IdTree.idsL, List.nodup_append] at hnd
    simp only [IdTree.idsL, List.mem_append] at hsub
    obtain ⟨R1, h1⟩ := iht R (fun j hj => hsub j (Or.inl hj)) hnd.1
    simp only [Registry.delTreeL, h1]
    apply ihts R1 _ hnd.2.1
    intro j hj
    rw [delete_keys_iff h1]
    exact ⟨hsub j (Or.inr hj), fun hjt => hnd.2.2 j hjt j hj rfl⟩

/-- the shape `delete_node_instance` walks for a value tree -/
def toIdTree : Tree → IdTree
  | .mk i _ _ _ _ _ _ _ cs => .mk i 0 (toIdTreeL cs)
where toIdTreeL : List Tree → List IdTree
  | [] => []
  | c :: cs => toIdTree c :: toIdTreeL cs

theorem toIdTree_ids_both :
    (∀ t : Tree, (toIdTree t).ids = t.ids) ∧ ∀ cs : List Tree, IdTree.idsL (toIdTree.toIdTreeL cs) = Tree.idsL cs := by
  apply Tree.induct₂
  case mk => intro i n c tl p a e ns cs ih; simp only [toIdTree, IdTree.ids, ids_mk, ih]
  case nil => simp [toIdTree.toIdTreeL, IdTree.idsL]
  case cons => intro c cs ihc ih; simp only [toIdTree.toIdTreeL, IdTree.idsL, idsL_cons, ihc, ih]

theorem toIdTreeL_ids : ∀ (cs : List Tree), IdTree.idsL (toIdTree.toIdTreeL cs) = Tree.idsL cs := toIdTree_ids_both.2

/-- the registry after discarding a list of subtrees one after the other (`delete_node_instance` on each root) -/
def discardTrees (R : Registry) (xs : List Tree) : Option Registry :=
  xs.foldlM (fun r x => r.delTree (toIdTree x)) R

theorem discardTrees_eq (xs : List Tree) (R : Registry) : discardTrees R xs = R.delTreeL (toIdTree.toIdTreeL xs) := by
  induction xs generalizing R with
  | nil => rfl
  | cons x xs ih =>
    simp only [discardTrees, List.foldlM_cons, toIdTree.toIdTreeL, Registry.delTreeL]
    cases R.delTree (toIdTree x) with
    | none => rfl
    | some R1 => exact ih R1

theorem discardTrees_ok (xs : List Tree) (R : Registry) (hsub : ∀ i ∈ xs.flatMap Tree.ids, i ∈ R.keys)
    (hnd : (xs.flatMap Tree.ids).Nodup) :
    ∃ R', discardTrees R xs = some R' ∧ ∀ k, k ∈ R'.keys ↔ (k ∈ R.keys ∧ k ∉ xs.flatMap Tree.ids) := by
  rw [← Tree.idsL_eq_flatMap, ← toIdTreeL_ids] at hsub hnd ⊢
  rw [discardTrees_eq]
  obtain ⟨R', h⟩ := delTree_ok_both.2 _ R hsub hnd
  exact ⟨R', h, delTreeL_keys_iff h⟩

/-- `prune`: one discard per removed subtree -/
def discardAll (R : Registry) (xs : List (Tree × Reason)) : Option Registry := discardTrees R (xs.map (·.1))

theorem discardAll_ok (xs : List (Tree × Reason)) (R : Registry) (hsub : ∀ i ∈ removedIds xs, i ∈ R.keys) (hnd : (removedIds xs).Nodup) :
    ∃ R', discardAll R xs = some R' ∧ ∀ k, k ∈ R'.keys ↔ (k ∈ R.keys ∧ k ∉ removedIds xs) := by
  have h : removedIds xs = (xs.map (·.1)).flatMap Tree.ids := (List.flatMap_map _ _ _).symm
  rw [h] at hsub hnd ⊢
  exact discardTrees_ok _ R hsub hnd

end Metapype
