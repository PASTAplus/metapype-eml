import MetapypeModel.Model.Query
import MetapypeModel.Lemmas.TreeLemmas
/-
  The search queries of `Node` against the document order.
-/
namespace Metapype

theorem findDescendant_both (x : String) :
    (∀ t : Tree, findDescendant x t = (Tree.preorderL t.children).find? (fun c => c.name == x)) ∧
    (∀ cs : List Tree, findDescendantL x cs = (Tree.preorderL cs).find? (fun c => c.name == x)) := by
  refine Tree.induct₂ (fun _ _ _ _ _ _ _ _ cs ih => ?_) rfl (fun c cs ihc ihcs => ?_)
  · rw [findDescendant, ih]
    rfl
  · -- the child itself, else the first hit below it, else the first hit among the later children: on both sides
    rw [findDescendantL, Tree.preorderL, Tree.preorder_eq, List.cons_append, List.find?_cons, List.find?_append, ← ihc, ← ihcs]
    cases c.name == x
    · cases findDescendant x c <;> rfl
    · rfl

theorem findAllDescendants_both (x : String) :
    (∀ (t : Tree) (acc : List Tree),
      findAllDescendants x t acc = acc ++ (Tree.preorderL t.children).filter (fun c => c.name == x)) ∧
    (∀ (cs : List Tree) (acc : List Tree),
      findAllDescendantsL x cs acc = acc ++ (Tree.preorderL cs).filter (fun c => c.name == x)) := by
  refine Tree.induct₂ (fun _ _ _ _ _ _ _ _ cs ih acc => ?_) (fun acc => (List.append_nil acc).symm)
    (fun c cs ihc ihcs acc => ?_)
  · rw [findAllDescendants, ih]
    rfl
  · rw [findAllDescendantsL, ihcs, ihc, Tree.preorderL, Tree.preorder_eq, List.cons_append, List.filter_cons, List.filter_append]
    split <;> simp

theorem head?_flatMap_findAllChildren {nm : String} {c n : Tree} {curs : List Tree} (hc : curs.head? = some c)
    (hn : findChild nm c = some n) : (curs.flatMap (findAllChildren nm)).head? = some n := by
  cases curs with
  | nil => cases hc
  | cons c' cs' =>
    cases hc
    rw [List.flatMap_cons, List.head?_append, findAllChildren, List.head?_filter, show c.children.find? _ = some n from hn]
    rfl

theorem path_fold_head (path : List String) (cur : Option Tree) (curs : List Tree)
    (h : ∀ n, cur = some n → curs.head? = some n) (m : Tree)
    (hm : path.foldl (fun cur name => match cur with | none => none | some n => findChild name n) cur = some m) :
    (path.foldl (fun cur name => cur.flatMap (findAllChildren name)) curs).head? = some m := by
  induction path generalizing cur curs with
  | nil => exact h m hm
  | cons nm rest ih =>
    refine ih _ _ (fun n hn => ?_) hm
    cases cur with
    | none => cases hn
    | some c => exact head?_flatMap_findAllChildren (h c rfl) hn

theorem childIndex_go_eq (cid : String) (cs : List Tree) (k : Nat) :
    childIndex.go cid cs k = List.findIdx?.go (fun c => c.id == cid) cs k := by
  induction cs generalizing k with
  | nil => rfl
  | cons c cs ih => rw [childIndex.go, List.findIdx?.go, ih]

end Metapype
