import MetapypeModel.Model.XmlValue
import MetapypeModel.Lemmas.DictLemmas
import MetapypeModel.Lemmas.XmlDen
import MetapypeModel.Lemmas.Split
/-
  What a parser finds in the general exporter's output, as far as both the theorems of C07 and the export-import round trip
  (Lemmas/RoundTrip.lean) need it: the white space the exporter adds, the children of the denoted element with the text
  around them (`collect`, `pairsG`), and the scoping of the namespace declarations it writes (`inScope`).
-/
namespace Metapype

def isWs (c : Char) : Bool := c == ' ' || c == '\n' || c == '\t' || c == '\r'

theorem CharData.ws {w : Str} (h : w.all isWs = true) : CharData w w := by
  induction w with
  | nil => exact .nil
  | cons c w ih =>
    rw [List.all_cons, Bool.and_eq_true] at h
    have hc : xmlChar c = true ∧ c ≠ '<' ∧ c ≠ '&' ∧ c ≠ '>' := by
      have : c = ' ' ∨ c = '\n' ∨ c = '\t' ∨ c = '\r' := by simpa only [isWs, Bool.or_eq_true, beq_iff_eq, or_assoc] using h.1
      rcases this with rfl | rfl | rfl | rfl <;> decide
    exact .lit c hc.1 hc.2.1 hc.2.2.1 hc.2.2.2 (ih h.2)

theorem indentOf_ws (level : Nat) : (indentOf level).all isWs = true :=
  all_flatten_replicate isWs rfl level

def wsStrip (s : Str) : Str := ((s.dropWhile isWs).reverse.dropWhile isWs).reverse

theorem wsStrip_eq (s : Str) : wsStrip s = trim isWs s := rfl

/-- text before the first element, and every element with the text that follows it up to the next element -/
def collect : List X → Str × List (X × Str)
  | [] => ([], [])
  | .text s :: r => (s ++ (collect r).1, (collect r).2)
  | .elem tg as ks :: r => ([], (.elem tg as ks, (collect r).1) :: (collect r).2)

/-- the white space the exporter writes after a child's tail: the next sibling's indentation, or what precedes the end tag -/
def sepAfter (closing : Str) (level : Nat) : List Tree → Str
  | [] => closing
  | _ :: _ => indentOf level

theorem sepAfter_ws {closing : Str} (hcl : closing.all isWs = true) (level : Nat) (cs : List Tree) :
    (sepAfter closing level cs).all isWs = true := by
  cases cs with
  | nil => exact hcl
  | cons _ _ => exact indentOf_ws level

/-- what `collect` finds among the children of an element the exporter wrote (`collect_kids`) -/
def pairsG (pns : Dict) (level : Nat) (closing : Str) : List Tree → List (X × Str)
  | [] => []
  | c :: cs => (xElemG c (some pns) level,
                "\n".toList ++ tailText c ++ sepAfter closing level cs) :: pairsG pns level closing cs

theorem xElemG_elem (t : Tree) (p : Option Dict) (l : Nat) : ∃ tg as ks, xElemG t p l = .elem tg as ks := by
  cases t with
  | mk i n c tl pf a e ns cs => exact ⟨tagOf n pf, attrList a e ns p, _, by unfold xElemG; rfl⟩

theorem collect_kids (pns : Dict) (level : Nat) (closing : Str) (cs : List Tree) (rest : List X)
    (h : collect rest = (closing, [])) :
    collect (xKidsG cs pns level ++ rest) = (sepAfter closing level cs, pairsG pns level closing cs) := by
  induction cs with
  | nil => exact h
  | cons c cs ih =>
    obtain ⟨tg, as, ks, he⟩ := xElemG_elem c (some pns) level
    simp only [xKidsG, List.cons_append, List.nil_append, collect, he, ih, pairsG, List.append_nil, sepAfter]

theorem collect_text_kids (pns : Dict) (level : Nat) {closing : Str} (hcl : closing.all isWs = true) (s : Str)
    (cs : List Tree) {rest : List X} (h : collect rest = (closing, [])) :
    (collect (X.text s :: (xKidsG cs pns level ++ rest))).2 = pairsG pns level closing cs ∧
      wsStrip (collect (X.text s :: (xKidsG cs pns level ++ rest))).1 = wsStrip s := by
  rw [collect, collect_kids pns level closing cs rest h]
  exact ⟨rfl, trim_pad [] s _ rfl (sepAfter_ws hcl level cs)⟩

theorem xElemG_children (i n : String) (c tl p : Option String) (a e ns : Dict) (cs : List Tree)
    (parentNs : Option Dict) (level : Nat) :
    ∃ kids, xElemG (.mk i n c tl p a e ns cs) parentNs level = .elem (tagOf n p) (attrList a e ns parentNs) kids ∧
      (collect kids).2 = pairsG ns (level + 1) (match c with | none => indentOf level | some _ => []) cs ∧
      wsStrip (collect kids).1 = wsStrip (match c with | some x => x.toList | none => []) := by
  cases c with
  | none =>
    cases cs with
    | nil => exact ⟨[], by unfold xElemG; rfl, rfl, rfl⟩
    | cons k ks =>
      have h := collect_text_kids ns (level + 1) (indentOf_ws level) "\n".toList (k :: ks)
        (rest := [X.text (indentOf level)]) (by simp [collect])
      -- `wsStrip "\n".toList` evaluates to `[]`
      exact ⟨_, by unfold xElemG; rfl, h.1, h.2⟩
  | some content =>
    have h := collect_text_kids ns (level + 1) (closing := []) rfl content.toList cs (rest := []) rfl
    rw [List.append_nil] at h
    exact ⟨_, by unfold xElemG; rfl, h.1, h.2⟩

/-- XML scoping: declarations on an element override the bindings in scope on its parent -/
def inScope (parentScope decls : Dict) : Dict := decls.foldl (fun d kv => d.set kv.1 kv.2) parentScope

theorem inScope_nspUnique_get? (child parent : Dict) (hc : child.keys.Nodup)
    (hclosed : ∀ k, Dict.get? parent k ≠ none → Dict.get? child k ≠ none) :
    ∀ k, Dict.get? (inScope parent (nspUnique child parent)) k = Dict.get? child k := by
  intro k
  rw [nspUnique, inScope, get?_foldl_set _ _ k (keys_filter_nodup child _ hc), get?_filter _ child k hc]
  -- a binding of the child is written unless the parent has the same one, and then it is inherited
  cases hcv : Dict.get? child k with
  | none => exact Decidable.byContradiction fun hp => hclosed k hp hcv
  | some v =>
    cases hp : Dict.get? parent k with
    | none => simp [hp]
    | some pv =>
      by_cases hne : pv = v <;> simp [hp, hne]

end Metapype
