import MetapypeModel.Model.Normalize
/-
  Splitting a text at separator characters, joining pieces with single spaces, and trimming, for any set `p` of
  separators: the model has each of them for several sets (a space, Python white space, XML white space).
  `splitBy p` keeps every piece, empty ones too; the words are the non-empty pieces, and the join of non-empty
  separator-free words is the normal form every normaliser of the model produces.
-/
namespace Metapype

/-- the pieces between the characters satisfying `p` (possibly empty): the shape of `splitSp` and `splitWs` -/
def splitBy (p : Char → Bool) : List Char → List (List Char)
  | [] => [[]]
  | c :: cs =>
    if p c then [] :: splitBy p cs
    else match splitBy p cs with
      | w :: ws => (c :: w) :: ws
      | [] => [[c]]

def wordsBy (p : Char → Bool) (s : List Char) : List (List Char) := (splitBy p s).filter (fun w => !w.isEmpty)

variable {p : Char → Bool}

theorem splitBy_eq_cons (s : List Char) : ∃ w ws, splitBy p s = w :: ws := by
  cases s with
  | nil => exact ⟨[], [], rfl⟩
  | cons c cs =>
    rw [splitBy]
    split
    · exact ⟨_, _, rfl⟩
    · split <;> exact ⟨_, _, rfl⟩

theorem splitBy_cons_sep {c : Char} (hc : p c = true) (s : List Char) : splitBy p (c :: s) = [] :: splitBy p s := by
  simp [splitBy, hc]

theorem splitBy_cons {c : Char} (hc : p c = false) {s w : List Char} {ws : List (List Char)} (h : splitBy p s = w :: ws) :
    splitBy p (c :: s) = (c :: w) :: ws := by
  simp [splitBy, hc, h]

theorem splitBy_append {c : Char} (hc : p c = true) (a b : List Char) :
    splitBy p (a ++ c :: b) = splitBy p a ++ splitBy p b := by
  induction a with
  | nil => simp [splitBy, hc]
  | cons x a ih =>
    cases hx : p x with
    | true => simp [splitBy_cons_sep hx, ih]
    | false =>
      obtain ⟨w, ws, h⟩ := splitBy_eq_cons (p := p) a
      rw [h] at ih
      rw [List.cons_append, splitBy_cons hx ih, splitBy_cons hx h]
      rfl

theorem splitBy_of_free (w : List Char) (h : ∀ c ∈ w, p c = false) : splitBy p w = [w] := by
  induction w with
  | nil => rfl
  | cons c w ih => exact splitBy_cons (h c List.mem_cons_self) (ih fun x hx => h x (List.mem_cons_of_mem _ hx))

theorem flatten_splitBy (s : List Char) : (splitBy p s).flatten = s.filter (fun c => !p c) := by
  induction s with
  | nil => rfl
  | cons c s ih =>
    cases hc : p c with
    | true => simp [splitBy_cons_sep hc, hc, ih]
    | false =>
      obtain ⟨w, ws, e⟩ := splitBy_eq_cons (p := p) s
      rw [e] at ih
      simp [splitBy_cons hc e, hc, ← ih]

theorem mem_of_mem_splitBy {s w : List Char} {c : Char} (hw : w ∈ splitBy p s) (hc : c ∈ w) : c ∈ s ∧ p c = false := by
  have : c ∈ (splitBy p s).flatten := List.mem_flatten.mpr ⟨w, hw, hc⟩
  simpa [flatten_splitBy] using this

/-- `joinSp.induct_unfolding` with the cases named -/
theorem joinSp_induct {motive : List (List Char) → List Char → Prop} (nil : motive [] []) (single : ∀ w, motive [w] w)
    (cons : ∀ w v ws, motive (v :: ws) (joinSp (v :: ws)) → motive (w :: v :: ws) (w ++ ' ' :: joinSp (v :: ws)))
    (ws : List (List Char)) : motive ws (joinSp ws) :=
  joinSp.induct_unfolding motive nil single cons ws

theorem joinSp_cons_cons (w v : List Char) (ws : List (List Char)) : joinSp (w :: v :: ws) = w ++ ' ' :: joinSp (v :: ws) := rfl

theorem joinSp_cons_head (c : Char) (w : List Char) (ws : List (List Char)) : joinSp ((c :: w) :: ws) = c :: joinSp (w :: ws) := by
  cases ws <;> rfl

theorem splitBy_joinSp (hsp : p ' ' = true) (ws : List (List Char)) (hne : ws ≠ []) (hw : ∀ w ∈ ws, ∀ c ∈ w, p c = false) :
    splitBy p (joinSp ws) = ws := by
  induction ws using joinSp_induct with
  | nil => exact absurd rfl hne
  | single w => exact splitBy_of_free w (hw w List.mem_cons_self)
  | cons w v ws ih =>
    rw [splitBy_append hsp, splitBy_of_free w (hw w List.mem_cons_self),
      ih (List.cons_ne_nil _ _) (fun x hx => hw x (List.mem_cons_of_mem _ hx))]
    rfl

theorem joinSp_mem (c : Char) (ws : List (List Char)) (h : c ∈ joinSp ws) : c = ' ' ∨ ∃ w ∈ ws, c ∈ w := by
  induction ws using joinSp_induct with
  | nil => cases h
  | single w => exact Or.inr ⟨w, List.mem_cons_self, h⟩
  | cons w v ws ih =>
    rcases List.mem_append.mp h with h | h
    · exact Or.inr ⟨w, List.mem_cons_self, h⟩
    · rcases List.mem_cons.mp h with h | h
      · exact Or.inl h
      · exact (ih h).imp_right fun ⟨x, hx, hc⟩ => ⟨x, List.mem_cons_of_mem _ hx, hc⟩

theorem joinSp_head (ws : List (List Char)) (h : ∀ w ∈ ws, w ≠ []) (c : Char) (hc : (joinSp ws).head? = some c) :
    ∃ w, ws.head? = some w ∧ w.head? = some c := by
  obtain _ | ⟨_ | ⟨a, w⟩, ws⟩ := ws
  · cases hc
  · exact absurd rfl (h [] List.mem_cons_self)
  · rw [joinSp_cons_head] at hc
    exact ⟨a :: w, rfl, hc⟩

theorem joinSp_last (ws : List (List Char)) (h : ∀ w ∈ ws, w ≠ []) (c : Char) (hc : (joinSp ws).getLast? = some c) :
    ∃ w, ws.getLast? = some w ∧ w.getLast? = some c := by
  induction ws using joinSp_induct with
  | nil => cases hc
  | single w => exact ⟨w, rfl, hc⟩
  | cons w v ws ih =>
    -- `v` is not empty, so the text after `w` and the space is not: its last character is that of the whole
    obtain ⟨a, v', hv⟩ := List.exists_cons_of_ne_nil (h v (List.mem_cons_of_mem _ List.mem_cons_self))
    have hj : joinSp (v :: ws) = a :: joinSp (v' :: ws) := hv ▸ joinSp_cons_head a v' ws
    rw [hj, List.getLast?_append, List.getLast?_cons_cons, ← hj] at hc
    rcases Option.or_eq_some_iff.mp hc with hl | ⟨hn, _⟩
    · obtain ⟨y, hy, hyc⟩ := ih (fun y hy => h y (List.mem_cons_of_mem _ hy)) hl
      exact ⟨y, by rwa [List.getLast?_cons_cons], hyc⟩
    · rw [hj] at hn
      cases List.getLast?_eq_none_iff.mp hn

theorem wordsBy_append {c : Char} (hc : p c = true) (a b : List Char) :
    wordsBy p (a ++ c :: b) = wordsBy p a ++ wordsBy p b := by
  simp only [wordsBy, splitBy_append hc, List.filter_append]

theorem wordsBy_of_free {w : List Char} (h : ∀ c ∈ w, p c = false) : wordsBy p w = if w = [] then [] else [w] := by
  rw [wordsBy, splitBy_of_free w h]
  cases w <;> rfl

theorem wordsBy_clean {s w : List Char} (hw : w ∈ wordsBy p s) : w ≠ [] ∧ ∀ c ∈ w, p c = false := by
  obtain ⟨hm, hne⟩ := List.mem_filter.mp hw
  exact ⟨by simpa using hne, fun c hc => (mem_of_mem_splitBy hm hc).2⟩

theorem flatten_wordsBy (s : List Char) : (wordsBy p s).flatten = s.filter (fun c => !p c) := by
  rw [wordsBy, List.flatten_filter_not_isEmpty, flatten_splitBy]

theorem wordsBy_eq_nil_iff (s : List Char) : wordsBy p s = [] ↔ s.all p = true := by
  -- no word is empty, so there is none exactly when their concatenation, the non-separators of `s`, is empty
  have hf : (wordsBy p s).flatten = [] ↔ s.all p = true := by
    rw [flatten_wordsBy, List.filter_eq_nil_iff, List.all_eq_true]
    exact forall_congr' fun c => by simp
  rw [← hf, List.flatten_eq_nil_iff, List.eq_nil_iff_forall_not_mem]
  exact forall_congr' fun w => ⟨fun h hw => absurd hw h, fun h hw => (wordsBy_clean hw).1 (h hw)⟩

theorem wordsBy_joinSp (hsp : p ' ' = true) (ws : List (List Char)) (h : ∀ w ∈ ws, w ≠ [] ∧ ∀ c ∈ w, p c = false) :
    wordsBy p (joinSp ws) = ws := by
  cases ws with
  | nil => rfl
  | cons w ws =>
    rw [wordsBy, splitBy_joinSp hsp _ (by simp) (fun w hw => (h w hw).2), List.filter_eq_self]
    exact fun w hw => by simpa using (h w hw).1

theorem wordsBy_joinSp_wordsBy (hsp : p ' ' = true) (s : List Char) : wordsBy p (joinSp (wordsBy p s)) = wordsBy p s :=
  wordsBy_joinSp hsp _ fun _ hw => wordsBy_clean hw

theorem wordsBy_joinSp_flatMap (hsp : p ' ' = true) (ws : List (List Char)) :
    wordsBy p (joinSp ws) = ws.flatMap (wordsBy p) := by
  induction ws using joinSp_induct with
  | nil => rfl
  | single w => exact (List.append_nil _).symm
  | cons w v ws ih => rw [wordsBy_append hsp, ih, List.flatMap_cons (xs := v :: ws)]

theorem splitBy_map (f : Char → Char) (hf : ∀ c, p (f c) = p c) (hid : ∀ c, p c = false → f c = c) (s : List Char) :
    splitBy p (s.map f) = splitBy p s := by
  induction s with
  | nil => rfl
  | cons c s ih =>
    rw [List.map_cons]
    cases hc : p c with
    | true => rw [splitBy_cons_sep ((hf c).trans hc), splitBy_cons_sep hc, ih]
    | false =>
      obtain ⟨w, ws, e⟩ := splitBy_eq_cons (p := p) s
      rw [hid c hc, splitBy_cons hc (ih.trans e), splitBy_cons hc e]

/-- reading left to right with the word in hand, the way `wsW` and `xW` do, finds the words -/
theorem acc_eq_wordsBy (f : List Char → List Char → List (List Char))
    (hnil : ∀ cur, f cur [] = if cur = [] then [] else [cur])
    (hcons : ∀ cur c cs, f cur (c :: cs) = if p c then (if cur = [] then f [] cs else cur :: f [] cs) else f (cur ++ [c]) cs)
    (s cur : List Char) (h : ∀ c ∈ cur, p c = false) : f cur s = wordsBy p (cur ++ s) := by
  induction s generalizing cur with
  | nil => rw [hnil, List.append_nil, wordsBy_of_free h]
  | cons c s ih =>
    rw [hcons]
    by_cases hc : p c = true
    · rw [if_pos hc, wordsBy_append hc, wordsBy_of_free h, ih [] (fun _ h => nomatch h)]
      split <;> rfl
    · rw [if_neg hc, ih (cur ++ [c]) (List.forall_mem_append.mpr ⟨h, List.forall_mem_singleton.mpr (Bool.eq_false_iff.mpr hc)⟩),
        List.append_assoc]
      rfl

theorem splitSp_eq (s : List Char) : splitSp s = splitBy (· == ' ') s := by
  induction s with
  | nil => rfl
  | cons c s ih =>
    simp only [splitSp, splitBy, ih, beq_iff_eq]
    rfl

theorem joinSp_splitSp (t : List Char) : joinSp (splitSp t) = t := by
  rw [splitSp_eq]
  induction t with
  | nil => rfl
  | cons c cs ih =>
    obtain ⟨w, ws, h⟩ := splitBy_eq_cons (p := (· == ' ')) cs
    rw [h] at ih
    by_cases hc : c = ' '
    · rw [splitBy_cons_sep (by simpa using hc), h, joinSp_cons_cons, ih, hc]
      rfl
    · rw [splitBy_cons (by simpa using hc) h, joinSp_cons_head, ih]

/-- the shape of `pyStrip` (Python white space) and `wsStrip` (XML white space) -/
def trim (p : Char → Bool) (s : List Char) : List Char := ((s.dropWhile p).reverse.dropWhile p).reverse

theorem stripLeft_eq (s : List Char) : stripLeft s = s.dropWhile pyIsSpace := by
  induction s with
  | nil => rfl
  | cons c s ih => by_cases h : pyIsSpace c = true <;> simp [stripLeft, h, ih]

theorem pyStrip_eq (s : List Char) : pyStrip s = trim pyIsSpace s := by
  simp only [pyStrip, stripLeft_eq, trim]

theorem dropWhile_eq_nil {s : List Char} (h : s.all p = true) : s.dropWhile p = [] := by
  simpa using List.dropWhile_append_of_pos (l₂ := []) (List.all_eq_true.mp h)

theorem trim_eq_nil {s : List Char} (h : s.all p = true) : trim p s = [] := by
  simp [trim, dropWhile_eq_nil h]

theorem trim_pad (w₁ s w₂ : List Char) (h1 : w₁.all p = true) (h2 : w₂.all p = true) : trim p (w₁ ++ s ++ w₂) = trim p s := by
  have h2' : ∀ c ∈ w₂.reverse, p c = true := fun c hc => List.all_eq_true.mp h2 c (List.mem_reverse.mp hc)
  unfold trim
  rw [List.append_assoc, List.dropWhile_append_of_pos (List.all_eq_true.mp h1), List.dropWhile_append]
  split
  · rename_i he
    rw [List.isEmpty_iff.mp he, dropWhile_eq_nil h2]
  · rw [List.reverse_append, List.dropWhile_append_of_pos h2']

theorem trim_ends (s : List Char) :
    (∀ c, (trim p s).head? = some c → p c = false) ∧ (∀ c, (trim p s).getLast? = some c → p c = false) := by
  have hd : ∀ (t : List Char) c, (t.dropWhile p).head? = some c → p c = false := fun t c h => by
    have := List.head?_dropWhile_not p t
    rw [h] at this
    exact this
  refine ⟨fun c hc => ?_, fun c hc => hd _ c (by rwa [trim, List.getLast?_reverse] at hc)⟩
  -- the second `dropWhile` removes a prefix of the reversed text, so the text keeps its first character
  rw [trim, List.head?_reverse] at hc
  obtain ⟨pre, hpre⟩ := List.dropWhile_suffix (l := (s.dropWhile p).reverse) p
  refine hd s c ?_
  rw [← List.getLast?_reverse, ← hpre, List.getLast?_append, hc]
  rfl

theorem trim_of_ends {s : List Char} (h1 : ∀ c, s.head? = some c → p c = false) (h2 : ∀ c, s.getLast? = some c → p c = false) :
    trim p s = s := by
  have hd : ∀ t : List Char, (∀ c, t.head? = some c → p c = false) → t.dropWhile p = t := fun t h => by
    cases t with
    | nil => rfl
    | cons x xs => exact List.dropWhile_cons_of_neg (Bool.eq_false_iff.mp (h x rfl))
  rw [trim, hd s h1, hd s.reverse (fun c hc => h2 c (by rwa [List.head?_reverse] at hc)), List.reverse_reverse]

theorem pyStrip_idem (s : List Char) : pyStrip (pyStrip s) = pyStrip s := by
  rw [pyStrip_eq (pyStrip s), pyStrip_eq s]
  exact trim_of_ends (trim_ends s).1 (trim_ends s).2

theorem trim_sublist (s : List Char) : (trim p s).Sublist s := by
  have h := ((List.dropWhile_sublist (l := (s.dropWhile p).reverse) p).reverse)
  rw [List.reverse_reverse] at h
  exact h.trans (List.dropWhile_sublist p)

theorem wordsBy_trim (s : List Char) : wordsBy p (trim p s) = wordsBy p s := by
  -- a function that does not see a separator in front does not see `dropWhile p`
  have drop : ∀ f : List Char → List (List Char), (∀ c t, p c = true → f (c :: t) = f t) → ∀ t, f (t.dropWhile p) = f t := by
    intro f hf t
    induction t with
    | nil => rfl
    | cons c t ih =>
      by_cases hc : p c = true
      · rw [List.dropWhile_cons_of_pos hc, ih, hf c t hc]
      · rw [List.dropWhile_cons_of_neg hc]
  rw [trim, drop (fun t => wordsBy p t.reverse), List.reverse_reverse, drop (wordsBy p)]
  · exact fun c t hc => wordsBy_append hc [] t
  · intro c t hc
    rw [List.reverse_cons, wordsBy_append hc]
    exact List.append_nil _

end Metapype
