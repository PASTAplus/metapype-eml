import MetapypeModel.Lemmas.MatcherSound
/-
  Completeness of the greedy matcher on the well-formed class with pairwise
  distinct names: a word of a construct's language followed by something that
  does not start with one of its names is consumed exactly, with no report.
-/
namespace Metapype

/-- No pass ever reports, so the loop is sound: it consumed a word over the names and stopped outside them, and
    `pre ++ suf` splits in that way only at `pre`. -/
theorem repChoice_complete (M : Bool) (alts : List Spec) (mn : Nat) (hmn : mn ≤ 1) (hall : alts.all leafAltLowOK = true)
    (pre suf : List String) (hl : Lang true M (.choice alts mn none) pre) (ho : Outside (Spec.namesL alts) suf) :
    gItem M (.choice alts mn none) (pre ++ suf) = (suf, []) := by
  have hev := loopW_leafLow M alts hall (pre ++ suf)
  obtain ⟨pre', hp, hr, ho'⟩ :=
    loopW_sound _ (fun ys => gPass M alts ys) (pass_sound_rep M alts (wfAlts_of_all_low alts hall)) _ _ hev
  obtain ⟨rfl, hrest⟩ := split_unique pre pre' suf _ hp (Lang_names_sub true M _ pre hl)
    (RepOf_names_sub (LangAlt_names_sub true M alts) _ _ hr) ho ho'
  obtain ⟨k, hk, hmin, -⟩ := hl
  simp only [gItem, hev, ← hrest, List.nil_append, Prod.mk.injEq, true_and]
  refine (finishChoice_nil_iff M mn none _).mpr ⟨trivial, hmin.imp_right fun hmin => ?_⟩
  -- `k` and the loop's count are both zero exactly when `pre` is empty
  have := (RepOf_zero_iff hk).trans (RepOf_zero_iff hr).symm
  omega

mutual
theorem item_complete (M : Bool) : ∀ (s : Spec), wfItem s = true → s.names.Nodup → ∀ (pre suf : List String),
    Lang true M s pre → Outside s.names suf → gItem M s (pre ++ suf) = (suf, [])
  | .leaf n mn mx => fun _ _ pre suf hl ho =>
    runLeaf_complete_lang M n mn mx false pre suf hl (fun h => ho n h (List.mem_singleton.mpr rfl))
  | .choice alts mn none => fun hw _ pre suf hl ho => by
    simp only [wfItem, Bool.and_eq_true, decide_eq_true_eq] at hw
    exact repChoice_complete M alts mn hw.1 hw.2 pre suf hl ho
  | .choice alts mn (some m) => fun hw hnd pre suf ⟨k, hrep, hmin, hmax⟩ ho => by
    -- an at-most-one choice: no occurrence and the loop stops at once, or one occurrence consumed by one pass
    simp only [wfItem, Bool.and_eq_true, decide_eq_true_eq] at hw
    obtain ⟨-, rfl, hwa⟩ := hw
    have ho : Outside (Spec.namesL alts) suf := ho
    rcases RepOf_le_one hrep hmax with ⟨rfl, rfl⟩ | ⟨rfl, hla, hne⟩
    · simp only [gItem, List.nil_append, loopW_stop _ _ _ _ ho, Prod.mk.injEq, true_and]
      exact (finishChoice_nil_iff M mn (some 1) 0).mpr ⟨Nat.zero_le 1, hmin⟩
    · cases pre with
      | nil => exact absurd rfl hne
      | cons p pt =>
        have hp : p ∈ Spec.namesL alts := LangAlt_names_sub true M alts _ hla p List.mem_cons_self
        have hpass := pass_complete M alts hwa hnd (p :: pt) suf hla hne ho
        -- `gItem` runs the loop with fuel `(p :: (pt ++ suf)).length + 1`, which `List.length_cons` turns into the
        -- `_ + 2` of `loopW_once`: one round for the pass, one to find the cursor outside
        simp only [gItem, List.cons_append, List.length_cons, loopW_once _ _ hp hpass ho, List.nil_append,
          Prod.mk.injEq, true_and]
        exact (finishChoice_nil_iff M mn (some 1) 1).mpr ⟨Nat.le_refl 1, hmin.imp_right fun _ => by omega⟩
  | .seq _ => fun hw => by simp [wfItem] at hw
theorem seq_complete (M : Bool) : ∀ (items : List Spec), wfItems items = true → (Spec.namesL items).Nodup →
    ∀ (pre suf : List String), LangSeq true M items pre → Outside (Spec.namesL items) suf →
    gSeq M items (pre ++ suf) = (suf, [])
  | [] => fun _ _ _ _ hl _ => hl ▸ rfl
  | s :: ss => fun hw hnd _ suf ⟨w₁, w₂, hpre, hl1, hl2⟩ ho => by
    subst hpre
    simp only [wfItems, Bool.and_eq_true] at hw
    obtain ⟨hnd1, hnd2, hdisj⟩ := List.nodup_append.mp hnd
    -- what follows the first item's word starts with a name of a later item, or outside all names
    have ho1 : Outside s.names (w₂ ++ suf) :=
      Outside_of_append (LangSeq_names_sub true M ss w₂ hl2) (fun x hx hx' => hdisj x hx x hx' rfl) (Outside_left ho)
    simp only [gSeq, List.append_assoc, item_complete M s hw.1 hnd1 w₁ (w₂ ++ suf) hl1 ho1,
      seq_complete M ss hw.2 hnd2 w₂ suf hl2 (Outside_right ho), List.append_nil]
theorem alt_complete (M : Bool) : ∀ (a : Spec), wfAlt a = true → a.names.Nodup → ∀ (pre suf : List String),
    Lang true M a pre → Outside a.names suf → gAlt M a (pre ++ suf) = (suf, [])
  | .leaf n mn mx => fun _ _ pre suf hl ho =>
    runLeaf_complete_lang M n mn mx true pre suf hl (fun h => ho n h (List.mem_singleton.mpr rfl))
  | .seq items => seq_complete M items
  | .choice _ _ _ => fun hw => by cases hw
theorem pass_complete (M : Bool) : ∀ (alts : List Spec), wfAlts alts = true → (Spec.namesL alts).Nodup →
    ∀ (pre suf : List String), LangAlt true M alts pre → pre ≠ [] → Outside (Spec.namesL alts) suf →
    gPass M alts (pre ++ suf) = ⟨suf, [], 1⟩
  | [] => fun _ _ _ _ hl => nomatch hl
  | a :: as => fun hw hnd pre suf hl hne ho => by
    obtain ⟨p, pt, rfl⟩ := List.exists_cons_of_ne_nil hne
    rw [wfAlts_cons, Bool.and_eq_true] at hw
    obtain ⟨hnd1, hnd2, hdisj⟩ := List.nodup_append.mp hnd
    rcases hl with hl | hl
    · -- `a` runs and stops in front of `suf`, where no later alternative starts
      have hp : p ∈ a.names := Lang_names_sub true M a _ hl p List.mem_cons_self
      rw [List.cons_append, gPass_hit_eq M as _ hp, ← List.cons_append,
        alt_complete M a hw.1 hnd1 (p :: pt) suf hl (Outside_left ho), gPass_skip M as suf (Outside_right ho)]
      rfl
    · -- the names are distinct: `a` does not run
      have hp : p ∈ Spec.namesL as := LangAlt_names_sub true M as _ hl p List.mem_cons_self
      rw [List.cons_append, gPass_miss_eq M as _ (fun h => hdisj p h p hp rfl), ← List.cons_append]
      exact pass_complete M as hw.2 hnd2 (p :: pt) suf hl (List.cons_ne_nil _ _) (Outside_right ho)
end

end Metapype
