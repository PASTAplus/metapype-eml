import MetapypeModel.Lemmas.ForestLemmas
/-
  Acyclicity of the child relation through edit histories (C09): no node becomes its own descendant, provided a node is never
  attached below itself.
-/
namespace Metapype

inductive Desc (F : Forest) : Nat → Nat → Prop where
  | kid {a b : Nat} : b ∈ F.kids a → Desc F a b
  | step {a m b : Nat} : m ∈ F.kids a → Desc F m b → Desc F a b

theorem Desc.trans {F : Forest} {a b c : Nat} (h1 : Desc F a b) (h2 : Desc F b c) : Desc F a c := by
  induction h1 with
  | kid h => exact Desc.step h h2
  | step h _ ih => exact Desc.step h (ih h2)

def Acyclic (F : Forest) : Prop := ∀ n, ¬ Desc F n n

def EdgesWithin (F F' : Forest) (p c : Nat) : Prop := ∀ a b, b ∈ F'.kids a → (b ∈ F.kids a ∨ (a = p ∧ b = c))

/-- a path of the forest with the one edge `p → c` added is a path of the old forest, or it begins with an old path from `x`
    to `p` and ends with an old path from `c` to `y` (what lies between two uses of the new edge is forgotten) -/
theorem desc_new_edge {F F' : Forest} {p c : Nat} (he : EdgesWithin F F' p c) {x y : Nat} (h : Desc F' x y) :
    Desc F x y ∨ ((x = p ∨ Desc F x p) ∧ (y = c ∨ Desc F c y)) := by
  induction h with
  | kid hk =>
    rcases he _ _ hk with h | ⟨rfl, rfl⟩
    · exact Or.inl (Desc.kid h)
    · exact Or.inr ⟨Or.inl rfl, Or.inl rfl⟩
  | @step a m b hk _ ih =>
    rcases he _ _ hk with hold | ⟨rfl, rfl⟩
    · rcases ih with h | ⟨hm, hy⟩
      · exact Or.inl (Desc.step hold h)
      · refine Or.inr ⟨Or.inr ?_, hy⟩
        rcases hm with rfl | hm
        · exact Desc.kid hold
        · exact Desc.step hold hm
    · rcases ih with h | ⟨_, hy⟩
      · exact Or.inr ⟨Or.inl rfl, Or.inr h⟩
      · exact Or.inr ⟨Or.inl rfl, hy⟩

theorem acyclic_add_edge {F F' : Forest} {p c : Nat} (ha : Acyclic F) (he : EdgesWithin F F' p c)
    (hne : c ≠ p) (hnd : ¬ Desc F c p) : Acyclic F' := by
  intro n hn
  rcases desc_new_edge he hn with h | ⟨hp, hc⟩
  · exact ha n h
  · rcases hp with rfl | hp <;> rcases hc with rfl | hc
    · exact hne rfl
    · exact hnd hc
    · exact hnd hp
    · exact hnd (hc.trans hp)

theorem acyclic_sub {F F' : Forest} (ha : Acyclic F) (he : ∀ a b, b ∈ F'.kids a → b ∈ F.kids a) : Acyclic F' := by
  have hd : ∀ x y, Desc F' x y → Desc F x y := by
    intro x y h
    induction h with
    | kid hk => exact Desc.kid (he _ _ hk)
    | step hk _ ih => exact Desc.step (he _ _ hk) ih
  exact fun n hn => ha n (hd n n hn)

theorem mem_swapAt (l : List Nat) (i j x : Nat) (h : x ∈ swapAt l i j) : x ∈ l := (swapAt_perm l i j).mem_iff.mp h

theorem Acyclic.setKids {F : Forest} (ha : Acyclic F) {p : Nat} {l l₀ : List Nat} (hl : l.Perm l₀) (h₀ : l₀.Sublist (F.kids p)) :
    Acyclic (F.setKids p l) :=
  acyclic_sub ha fun _ _ => Forest.mem_kids_rearrange hl h₀

theorem Acyclic.attach {F : Forest} (ha : Acyclic F) {p c : Nat} {l l₀ : List Nat} (hne : c ≠ p) (hnd : ¬ Desc F c p)
    (hl : l.Perm (c :: l₀)) (h₀ : l₀.Sublist (F.kids p)) : Acyclic ((F.setKids p l).setParent c p) :=
  acyclic_add_edge ha (fun _ _ => Forest.mem_kids_attach hl h₀) hne hnd

end Metapype
