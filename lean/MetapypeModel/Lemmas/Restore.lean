import MetapypeModel.Lemmas.LangLemmas
/-
  C17 "restores validity whenever possible": the rank-based insertion position of
  `Rule.child_insert_index` yields a word of the rule's language whenever some insertion
  position does, for every spec of the class `wfTop` (the class of C01).

  `insBy rk c xs` is the abstract form of the Python loop: put `c` in front of the first
  child whose rank is strictly greater, else at the end.  The lemmas are stated for an
  arbitrary rank function that is strictly increasing along the spec's flattened names.
-/
namespace Metapype

def insBy (rk : String → Nat) (c : String) : List String → List String
  | [] => [c]
  | x :: xs => if rk c < rk x then c :: x :: xs else x :: insBy rk c xs

theorem insBy_perm (rk : String → Nat) (c : String) (xs : List String) : (insBy rk c xs).Perm (c :: xs) := by
  fun_induction insBy rk c xs with
  | case1 | case2 => exact List.Perm.refl _                                 -- end of the list; in front of the head
  | case3 x xs _ ih => exact (ih.cons x).trans (List.Perm.swap c x xs)     -- behind the head

theorem insBy_length (rk : String → Nat) (c : String) (xs : List String) : (insBy rk c xs).length = xs.length + 1 :=
  (insBy_perm rk c xs).length_eq

theorem insBy_ne_nil (rk : String → Nat) (c : String) (xs : List String) : insBy rk c xs ≠ [] :=
  List.ne_nil_of_length_pos (insBy_length rk c xs ▸ Nat.succ_pos _)

theorem insBy_prefix (rk : String → Nat) (c : String) (A B : List String) (h : ∀ a ∈ A, rk a ≤ rk c) :
    insBy rk c (A ++ B) = A ++ insBy rk c B := by
  induction A with
  | nil => rfl
  | cons a A ih =>
    rw [List.cons_append, insBy, if_neg (Nat.not_lt.mpr (h a List.mem_cons_self)), ih fun x hx => h x (List.mem_cons_of_mem _ hx)]
    rfl

theorem insBy_suffix (rk : String → Nat) (c : String) (B C : List String) (h : ∀ x ∈ C, rk c < rk x) :
    insBy rk c (B ++ C) = insBy rk c B ++ C := by
  induction B with
  | nil =>
    cases C with
    | nil => rfl
    | cons x C => exact if_pos (h x List.mem_cons_self)
  | cons b B ih =>
    rw [List.cons_append, insBy, insBy, ih, apply_ite (· ++ C)]
    rfl

theorem mem_insert_mid {α : Type} {u v : List α} {c x : α} (h : x ∈ u ++ v) : x ∈ u ++ c :: v :=
  List.perm_middle.mem_iff.mpr (List.mem_cons_of_mem c h)

theorem insBy_perm_mid (rk : String → Nat) (c : String) (u v : List String) : (insBy rk c (u ++ v)).Perm (u ++ c :: v) :=
  (insBy_perm rk c _).trans List.perm_middle.symm

theorem split_mid {α : Type} (u v w₁ w₂ : List α) (c : α) (h : u ++ c :: v = w₁ ++ w₂) :
    (∃ a, w₁ = u ++ c :: a ∧ v = a ++ w₂) ∨ (∃ b, u = w₁ ++ b ∧ w₂ = b ++ c :: v) := by
  rcases List.append_eq_append_iff.mp h with ⟨a', rfl, h2⟩ | ⟨b, rfl, rfl⟩
  · rcases List.cons_eq_append_iff.mp h2 with ⟨rfl, rfl⟩ | ⟨a, rfl, rfl⟩
    · exact Or.inr ⟨[], by simp only [List.append_nil], rfl⟩
    · exact Or.inl ⟨a, rfl, rfl⟩
  · exact Or.inr ⟨b, rfl, rfl⟩

section
variable (rk : String → Nat) (M : Bool)

theorem restore_leaf (n : String) (mn : Nat) (mx : Option Nat) (u v : List String) (c : String)
    (h : Lang true M (.leaf n mn mx) (u ++ c :: v)) : Lang true M (.leaf n mn mx) (insBy rk c (u ++ v)) := by
  obtain ⟨k, h1, h2, h3⟩ := h
  exact ⟨k, h1, h2, List.perm_replicate.mp (h3 ▸ insBy_perm_mid rk c u v)⟩

mutual
theorem restore_item : ∀ (s : Spec), wfItem s = true → s.names.Pairwise (fun a b => rk a < rk b) →
    ∀ (u v : List String) (c : String), Lang true M s (u ++ c :: v) → Lang true M s (insBy rk c (u ++ v))
  | .leaf n mn mx => fun _ _ => restore_leaf rk M n mn mx
  | .seq _ => fun hw => by simp [wfItem] at hw
  | .choice alts mn none => fun hw _ u v c ⟨k, hrep, hmin, _⟩ => by
    -- any non-empty word over the names is a word of a repeating choice
    simp only [wfItem, Bool.and_eq_true, decide_eq_true_eq] at hw
    have hsub := RepOf_names_sub (LangAlt_names_sub true M alts) k _ hrep
    refine ⟨(insBy rk c (u ++ v)).length,
      leafAlts_rep M alts hw.2 _ fun x hx => hsub x ((insBy_perm_mid rk c u v).mem_iff.mp hx), ?_, trivial⟩
    rw [insBy_length]
    exact Or.inr (by omega)
  | .choice alts mn (some m) => fun hw hp u v c ⟨k, hrep, hmin, hmax⟩ => by
    -- exactly one occurrence, of one alternative
    simp only [wfItem, Bool.and_eq_true, decide_eq_true_eq] at hw
    obtain ⟨-, rfl, hwa⟩ := hw
    rcases RepOf_le_one hrep hmax with ⟨_, h0⟩ | ⟨rfl, halt, -⟩
    · exact absurd h0 (by simp)
    · exact ⟨1, RepOf_one (restore_alts alts hwa hp u v c halt) (insBy_ne_nil rk c _), hmin, Nat.le_refl 1⟩
theorem restore_items : ∀ (items : List Spec), wfItems items = true →
    (Spec.namesL items).Pairwise (fun a b => rk a < rk b) →
    ∀ (u v : List String) (c : String), LangSeq true M items (u ++ c :: v) → LangSeq true M items (insBy rk c (u ++ v))
  | [] => fun _ _ u v c h => by simp [LangSeq] at h
  | s :: ss => fun hw hp u v c ⟨w₁, w₂, hsplit, h1, h2⟩ => by
    simp only [wfItems, Bool.and_eq_true] at hw
    obtain ⟨hp1, hp2, hp12⟩ := List.pairwise_append.mp hp
    rcases split_mid u v w₁ w₂ c hsplit with ⟨a, rfl, rfl⟩ | ⟨b, rfl, rfl⟩
    · -- the new child belongs to the first item: everything after it has a greater rank
      have hc : c ∈ s.names := Lang_names_sub true M s _ h1 c (List.mem_append_right _ List.mem_cons_self)
      have hgt : ∀ x ∈ w₂, rk c < rk x := fun x hx => hp12 c hc x (LangSeq_names_sub true M ss w₂ h2 x hx)
      refine ⟨insBy rk c (u ++ a), w₂, ?_, restore_item s hw.1 hp1 u a c h1, h2⟩
      rw [← List.append_assoc, insBy_suffix rk c (u ++ a) w₂ hgt]
    · -- the new child belongs to a later item: the first item's word has smaller ranks
      have hc : c ∈ Spec.namesL ss := LangSeq_names_sub true M ss _ h2 c (List.mem_append_right _ List.mem_cons_self)
      have hle : ∀ x ∈ w₁, rk x ≤ rk c := fun x hx => Nat.le_of_lt (hp12 x (Lang_names_sub true M s w₁ h1 x hx) c hc)
      refine ⟨w₁, insBy rk c (b ++ v), ?_, h1, restore_items ss hw.2 hp2 b v c h2⟩
      rw [List.append_assoc, insBy_prefix rk c w₁ (b ++ v) hle]
theorem restore_alt : ∀ (a : Spec), wfAlt a = true → a.names.Pairwise (fun a b => rk a < rk b) →
    ∀ (u v : List String) (c : String), Lang true M a (u ++ c :: v) → Lang true M a (insBy rk c (u ++ v))
  | .leaf n mn mx => fun _ _ => restore_leaf rk M n mn mx
  | .seq items => restore_items items
  | .choice _ _ _ => fun hw => by cases hw
theorem restore_alts : ∀ (alts : List Spec), wfAlts alts = true →
    (Spec.namesL alts).Pairwise (fun a b => rk a < rk b) →
    ∀ (u v : List String) (c : String), LangAlt true M alts (u ++ c :: v) → LangAlt true M alts (insBy rk c (u ++ v))
  | [] => fun _ _ _ _ _ h => nomatch h
  | a :: as => fun hw hp u v c h => by
    rw [wfAlts_cons, Bool.and_eq_true] at hw
    obtain ⟨hp1, hp2, -⟩ := List.pairwise_append.mp hp
    exact h.imp (restore_alt a hw.1 hp1 u v c) (restore_alts as hw.2 hp2 u v c)
end

end

end Metapype
