import MetapypeModel.Lemmas.RoundTrip
/-
  The dictionary-level facts of one exported node (`NodeOK` of Lemmas/RoundTrip.lean), from syntactic hypotheses:
  names without colon, extras keys of the form `prefix:local`, namespace maps with unique keys that include the parent's
  bindings, distinct prefixes bound to distinct namespace names.
-/
namespace Metapype

theorem splitQName_nocolon (s : Str) (h : ':' ∉ s) : splitQName s = (none, s) := by
  induction s with
  | nil => rfl
  | cons c cs ih => rw [splitQName, if_neg (List.ne_of_not_mem_cons h).symm, ih (List.not_mem_of_not_mem_cons h)]

theorem splitQName_prefixed (q l : Str) (h : ':' ∉ q) : splitQName (q ++ ':' :: l) = (some q, l) := by
  induction q with
  | nil => rw [List.nil_append, splitQName, if_pos rfl]
  | cons c q ih =>
    rw [List.cons_append, splitQName, if_neg (List.ne_of_not_mem_cons h).symm, ih (List.not_mem_of_not_mem_cons h)]

theorem xmlnsPfx_eq : xmlnsPfx = ['x', 'm', 'l', 'n', 's', ':'] := by
  rw [xmlnsPfx, String.toList_ofList]

theorem declaredPrefix_xmlns (k : Str) : declaredPrefix (xmlnsPfx ++ k) = some k := by
  rw [declaredPrefix, if_pos (List.isPrefixOf_iff_prefix.mpr (List.prefix_append _ _)),
    List.drop_left' (by rw [xmlnsPfx_eq]; rfl)]

theorem declaredPrefix_none (s : Str) (h : (splitQName s).1 ≠ some "xmlns".toList) : declaredPrefix s = none := by
  refine if_neg fun hp => ?_
  obtain ⟨t, rfl⟩ := List.isPrefixOf_iff_prefix.mp hp
  rw [xmlnsPfx_eq, String.toList_ofList] at h
  exact h (congrArg Prod.fst (splitQName_prefixed ['x', 'm', 'l', 'n', 's'] t (by decide)))

theorem declaredPrefix_nocolon (s : Str) (h : ':' ∉ s) : declaredPrefix s = none :=
  declaredPrefix_none s (by rw [splitQName_nocolon s h]; exact nofun)

theorem splitQName_key {k q l : String} (hk : k = q ++ ":" ++ l) (hq : ':' ∉ q.toList) :
    splitQName k.toList = (some q.toList, l.toList) := by
  rw [hk, String.toList_append, String.toList_append, List.append_assoc, String.toList_ofList]
  exact splitQName_prefixed _ _ hq

theorem declaredPrefix_key {k q l : String} (hk : k = q ++ ":" ++ l) (hq : ':' ∉ q.toList) (hne : q ≠ "xmlns") :
    declaredPrefix k.toList = none := by
  apply declaredPrefix_none
  rw [splitQName_key hk hq]
  exact fun e => hne (String.toList_injective (Option.some.inj e))

theorem nsmapOf_get? (scope : Dict) (as : List (Str × Str)) (k : String) :
    (nsmapOf scope as).get? k = ((declsOf as).get? k).or (scope.get? k) := by
  rw [nsmapOf, get?_append, get?_filter_key (fun key => !((declsOf as).has key)), has_eq_isSome]
  cases (declsOf as).get? k <;> rfl

/-- hypotheses on one node (all syntactic; the generator of the C07 check produces exactly such trees) -/
structure NodeHyp (pns : Option Dict) (n : String) (p : Option String) (a e ns : Dict) : Prop where
  name_nc : ':' ∉ n.toList
  pfx_nc : ∀ q, p = some q → ':' ∉ q.toList
  a_nc : ∀ kv ∈ a, ':' ∉ kv.1.toList ∧ '{' ∉ kv.1.toList
  a_nodup : a.keys.Nodup
  e_form : ∀ kv ∈ e, ∃ q l : String, kv.1 = q ++ ":" ++ l ∧ ':' ∉ q.toList ∧ q ≠ "xmlns" ∧ '}' ∉ l.toList ∧
      (q = "xml" ∨ ∃ u, ns.get? q = some u ∧ ∀ q', ns.get? q' = some u → q' = q)
  e_nodup : e.keys.Nodup
  ns_nodup : ns.keys.Nodup
  ns_noxml : ∀ k v, ns.get? k = some v → v ≠ xmlNamespace
  closed : ∀ P, pns = some P → P.keys.Nodup ∧ ∀ k, P.get? k ≠ none → ns.get? k ≠ none

theorem filterMap_append' {α β : Type} (f : α → Option β) (l₁ l₂ : List α) :
    (l₁ ++ l₂).filterMap f = l₁.filterMap f ++ l₂.filterMap f := List.filterMap_append

/-- the three segments of the attribute list: attributes, namespace declarations, extras -/
theorem attrList_eq (a e ns : Dict) (pns : Option Dict) : attrList a e ns pns =
    a.map (fun kv => (kv.1.toList, kv.2.toList)) ++ (nsDecl ns pns).map (fun kv => (xmlnsPfx ++ kv.1.toList, kv.2.toList)) ++
      e.map (fun kv => (kv.1.toList, kv.2.toList)) := rfl

theorem declsOf_append (l m : List (Str × Str)) : declsOf (l ++ m) = declsOf l ++ declsOf m := List.filterMap_append

theorem attribOf_append (NS : Dict) (l m : List (Str × Str)) : attribOf NS (l ++ m) = attribOf NS l ++ attribOf NS m :=
  List.filterMap_append

theorem find_last (P : Nat → Bool) {i : Nat} (hp : P i = true) {n : Nat} (h : i < n) (hlast : ∀ j, i < j → j < n → P j = false) :
    (List.range n).reverse.find? P = some i := by
  induction n with
  | zero => exact absurd h (Nat.not_lt_zero i)
  | succ m ih =>
    rw [List.range_succ, List.reverse_append, List.reverse_singleton, List.singleton_append, List.find?_cons]
    rcases Nat.lt_succ_iff_lt_or_eq.mp h with him | rfl
    · rw [hlast m him (Nat.lt_succ_self m)]
      exact ih him fun j h1 h2 => hlast j h1 (Nat.lt_succ_of_lt h2)
    · rw [hp]

theorem splitClark_mk (u l : Str) (hl : '}' ∉ l) : splitClark ('{' :: (u ++ '}' :: l)) = some (u, l) := by
  have hfind : (List.range (u ++ '}' :: l).length).reverse.find? (fun i => (u ++ '}' :: l)[i]? == some '}') = some u.length := by
    refine find_last _ ?_ (by simp) fun j h1 h2 => ?_
    · rw [List.getElem?_append_right (Nat.le_refl _), Nat.sub_self]
      rfl
    · -- an index beyond `u` and the brace falls into `l`, which has no brace
      rw [List.append_cons, List.getElem?_append_right (by rw [List.length_append]; exact h1)]
      exact beq_false_of_ne fun e => hl (List.mem_of_getElem? e)
  rw [splitClark, hfind]
  simp

theorem foldl_last_match {α β : Type} (q : α → Bool) (f : α → β) (l : List α) (start : β) :
    l.foldl (fun acc x => if q x then f x else acc) start = ((l.reverse.find? q).map f).getD start := by
  rw [List.foldl_eq_foldr_reverse]
  induction l.reverse with
  | nil => rfl
  | cons x l ih =>
    rw [List.foldr_cons, List.find?_cons]
    cases q x
    · exact ih
    · rfl

/-- `_format_extras` overwrites in a loop over the namespace map, so the LAST prefix bound to the namespace name wins -/
theorem formatExtras_clark (name : String) (uri target : List Char) (ns : Dict)
    (h : splitClark name.toList = some (uri, target)) :
    formatExtras name ns =
      ((ns.reverse.find? (fun kv => String.ofList uri == kv.2)).map (fun kv => kv.1 ++ ":" ++ String.ofList target)).getD
        (if String.ofList uri == xmlNamespace then "xml:" ++ String.ofList target else name) := by
  simp only [formatExtras, h]
  exact foldl_last_match _ _ ns _

theorem formatExtras_bound (name : String) (uri target : List Char) (ns : Dict)
    (h : splitClark name.toList = some (uri, target)) (hb : ∃ kv ∈ ns, kv.2 = String.ofList uri) :
    ∃ kv ∈ ns, kv.2 = String.ofList uri ∧ formatExtras name ns = kv.1 ++ ":" ++ String.ofList target := by
  rw [formatExtras_clark name uri target ns h]
  cases hf : ns.reverse.find? (fun kv => String.ofList uri == kv.2) with
  | none =>
    obtain ⟨kv, hk, he⟩ := hb
    exact absurd (beq_iff_eq.mpr he.symm) (List.find?_eq_none.mp hf kv (List.mem_reverse.mpr hk))
  | some kv =>
    have hq : (String.ofList uri == kv.2) = true :=
      List.find?_some (p := fun kv : String × String => String.ofList uri == kv.2) hf
    exact ⟨kv, List.mem_reverse.mp (List.mem_of_find?_eq_some hf), (beq_iff_eq.mp hq).symm, rfl⟩

theorem formatExtras_xml (name : String) (target : List Char) (ns : Dict)
    (h : splitClark name.toList = some (xmlNamespace.toList, target)) (hn : ∀ kv ∈ ns, kv.2 ≠ xmlNamespace) :
    formatExtras name ns = "xml:" ++ String.ofList target := by
  rw [formatExtras_clark name _ target ns h, String.ofList_toList, if_pos (beq_self_eq_true xmlNamespace),
    List.find?_eq_none.mpr fun kv hkv h => hn kv (List.mem_reverse.mp hkv) (beq_iff_eq.mp h).symm]
  rfl

theorem splitClark_clark (u l : String) (hl : '}' ∉ l.toList) :
    splitClark ("{" ++ u ++ "}" ++ l).toList = some (u.toList, l.toList) := by
  have : ("{" ++ u ++ "}" ++ l).toList = '{' :: (u.toList ++ '}' :: l.toList) := by simp
  rw [this, splitClark_mk _ _ hl]

theorem keys_filter_sub (d : Dict) (f : String × String → Bool) : ∀ k ∈ Dict.keys (d.filter f), k ∈ d.keys :=
  fun _ h => List.Sublist.subset (List.Sublist.map _ List.filter_sublist) h

theorem nsmapOf_nodup (scope : Dict) (as : List (Str × Str)) (hd : (declsOf as).keys.Nodup) (hs : scope.keys.Nodup) :
    (nsmapOf scope as).keys.Nodup := by
  unfold nsmapOf
  simp only [Dict.keys, List.map_append]
  rw [List.nodup_append]
  refine ⟨hd, keys_filter_nodup scope _ hs, ?_⟩
  intro a ha b hb hab
  subst hab
  obtain ⟨kv, hkv, rfl⟩ := List.mem_map.mp hb
  obtain ⟨kv', hkv', e⟩ := List.mem_map.mp ha
  have hf := (List.mem_filter.mp hkv).2
  rw [← e, has_of_mem _ _ hkv'] at hf
  cases hf

/-- the key under which lxml reports an attribute written as `k` -/
def clarkKey (NS : Dict) (k : String) : String :=
  match splitQName k.toList with
  | (some p, l) => "{" ++ uriOf NS (String.ofList p) ++ "}" ++ String.ofList l
  | (none, l) => String.ofList l

theorem clarkKey_key (NS : Dict) {k q l : String} (hk : k = q ++ ":" ++ l) (hq : ':' ∉ q.toList) :
    clarkKey NS k = "{" ++ uriOf NS q ++ "}" ++ l := by
  simp [clarkKey, splitQName_key hk hq]

theorem nsDecl_nodup (ns : Dict) (pns : Option Dict) (h : ns.keys.Nodup) : (nsDecl ns pns).keys.Nodup := by
  unfold nsDecl
  cases pns with
  | none => exact h
  | some P =>
    simp only
    split
    · exact List.nodup_nil
    · exact keys_filter_nodup ns _ h

theorem tagOf_split (n : String) (p : Option String) (hn : ':' ∉ n.toList) (hp : ∀ q, p = some q → ':' ∉ q.toList) :
    String.ofList (splitQName (tagOf n p)).2 = n ∧ (splitQName (tagOf n p)).1.map String.ofList = p := by
  cases p with
  | none => simp [tagOf, splitQName_nocolon _ hn]
  | some q =>
    have : tagOf n (some q) = q.toList ++ ':' :: n.toList := by simp [tagOf]
    rw [this, splitQName_prefixed _ _ (hp q rfl)]
    simp

theorem attrsOf_eq (attrib : List (String × String)) :
    attrsOf attrib = (attrib.filter (fun kv => !kv.1.toList.contains '{')).foldl (fun (d : Dict) kv => d.set kv.1 kv.2) [] := by
  rw [List.foldl_filter, attrsOf]
  simp only [Bool.not_eq_true', Bool.eq_false_iff, ite_not]

theorem extrasOf_eq (ns : Dict) (attrib : List (String × String)) :
    extrasOf ns attrib = ((attrib.filter (fun kv => kv.1.toList.contains '{')).map
      (fun kv => (formatExtras kv.1 ns, kv.2))).foldl (fun (d : Dict) kv => d.set kv.1 kv.2) [] := by
  rw [List.foldl_map, List.foldl_filter, extrasOf]

theorem formatExtras_clarkKey {NS ns : Dict} (hsame : DictSame NS ns) (hnd : NS.keys.Nodup)
    (hnoxml : ∀ k v, ns.get? k = some v → v ≠ xmlNamespace) {k q l : String} (hk : k = q ++ ":" ++ l)
    (hq : ':' ∉ q.toList) (hl : '}' ∉ l.toList)
    (hres : q = "xml" ∨ ∃ u, ns.get? q = some u ∧ ∀ q', ns.get? q' = some u → q' = q) :
    formatExtras (clarkKey NS k) NS = k := by
  have hmem : ∀ kv ∈ NS, ns.get? kv.1 = some kv.2 := fun kv hkv => hsame kv.1 ▸ get?_of_mem_nodup NS hnd kv.1 kv.2 hkv
  rw [clarkKey_key NS hk hq, hk]
  by_cases hx : q = "xml"
  · subst hx
    simp only [uriOf, if_true]
    rw [formatExtras_xml _ _ NS (splitClark_clark _ l hl) (fun kv hkv => hnoxml _ _ (hmem kv hkv)), String.ofList_toList]
    rfl
  · obtain ⟨u, hu, hinj⟩ := hres.resolve_left hx
    have hg : NS.get? q = some u := (hsame q).trans hu
    simp only [uriOf, if_neg hx, hg, Option.getD_some]
    obtain ⟨kv, hkv, he, hf⟩ := formatExtras_bound _ _ _ NS (splitClark_clark u l hl)
      ⟨(q, u), mem_of_get? NS q u hg, (String.ofList_toList).symm⟩
    rw [String.ofList_toList] at he
    rw [hf, String.ofList_toList, hinj kv.1 (he ▸ hmem kv hkv)]

def ScopeOK (scope : Dict) : Option Dict → Prop
  | none => scope = []
  | some P => DictSame scope P

section
variable {pns : Option Dict} {n : String} {p : Option String} {a e ns : Dict} (H : NodeHyp pns n p a e ns) (NS : Dict)
include H

theorem declsOf_attrList : declsOf (attrList a e ns pns) = nsDecl ns pns := by
  have hattrs : declsOf (a.map fun kv => (kv.1.toList, kv.2.toList)) = [] := by
    rw [declsOf, List.filterMap_map]
    exact List.filterMap_eq_nil_iff.mpr fun kv hkv => by
      simp only [Function.comp_apply, declaredPrefix_nocolon _ (H.a_nc kv hkv).1]
  have hdecls : declsOf ((nsDecl ns pns).map fun kv => (xmlnsPfx ++ kv.1.toList, kv.2.toList)) = nsDecl ns pns := by
    rw [declsOf, List.filterMap_map]
    exact (filterMap_eq_map_mem (g := id) fun kv _ => by
      simp only [Function.comp_apply, declaredPrefix_xmlns, String.ofList_toList, id]).trans (List.map_id _)
  have hextras : declsOf (e.map fun kv => (kv.1.toList, kv.2.toList)) = [] := by
    rw [declsOf, List.filterMap_map]
    exact List.filterMap_eq_nil_iff.mpr fun kv hkv => by
      obtain ⟨q, l, hk, hq, hne, _⟩ := H.e_form kv hkv
      simp only [Function.comp_apply, declaredPrefix_key hk hq hne]
  rw [attrList_eq, declsOf_append, declsOf_append, hattrs, hdecls, hextras, List.nil_append, List.append_nil]

theorem nodeOK_same {scope : Dict} (hs : ScopeOK scope pns) : DictSame (nsmapOf scope (attrList a e ns pns)) ns := by
  intro k
  rw [nsmapOf_get?, declsOf_attrList H]
  cases pns with
  | none =>
    obtain rfl : scope = [] := hs
    exact Option.or_none
  | some P =>
    obtain ⟨hPnd, hcl⟩ := H.closed P rfl
    rw [(hs : DictSame scope P) k]
    simp only [nsDecl]
    by_cases hde : dictEq ns P = true
    · rw [if_pos hde, get?_nil, Option.none_or]
      exact ((dictEq_iff ns P H.ns_nodup hPnd).mp hde k).symm
    · -- the declarations written are those of `inScope_nspUnique_get?`, read back under the parent's scope
      rw [if_neg hde, nspUnique, ← get?_foldl_set _ _ k (keys_filter_nodup ns _ H.ns_nodup)]
      exact inScope_nspUnique_get? ns P H.ns_nodup hcl k

theorem attribOf_attrList : attribOf NS (attrList a e ns pns) = a ++ e.map (fun kv => (clarkKey NS kv.1, kv.2)) := by
  have hattrs : attribOf NS (a.map fun kv => (kv.1.toList, kv.2.toList)) = a := by
    rw [attribOf, List.filterMap_map]
    exact (filterMap_eq_map_mem (g := id) fun kv hkv => by
      have hk := (H.a_nc kv hkv).1
      simp only [Function.comp_apply, declaredPrefix_nocolon _ hk, splitQName_nocolon _ hk, String.ofList_toList, id]).trans
        (List.map_id a)
  have hdecls : attribOf NS ((nsDecl ns pns).map fun kv => (xmlnsPfx ++ kv.1.toList, kv.2.toList)) = [] := by
    rw [attribOf, List.filterMap_map]
    exact List.filterMap_eq_nil_iff.mpr fun kv _ => by simp only [Function.comp_apply, declaredPrefix_xmlns]
  have hextras : attribOf NS (e.map fun kv => (kv.1.toList, kv.2.toList)) = e.map fun kv => (clarkKey NS kv.1, kv.2) := by
    rw [attribOf, List.filterMap_map]
    exact filterMap_eq_map_mem fun kv hkv => by
      obtain ⟨q, l, hk, hq, hne, _⟩ := H.e_form kv hkv
      simp only [Function.comp_apply, clarkKey, declaredPrefix_key hk hq hne, splitQName_key hk hq, String.ofList_toList]
  rw [attrList_eq, attribOf_append, attribOf_append, hattrs, hdecls, hextras, List.append_nil]

theorem brace_attrs : ∀ kv ∈ a, kv.1.toList.contains '{' = false :=
  fun kv hkv => by simpa using (H.a_nc kv hkv).2

theorem brace_extras : ∀ kv ∈ e.map (fun kv => (clarkKey NS kv.1, kv.2)), kv.1.toList.contains '{' = true := fun kv hkv => by
  obtain ⟨x, hx, rfl⟩ := List.mem_map.mp hkv
  obtain ⟨q, l, hk, hq, _⟩ := H.e_form x hx
  simp [clarkKey_key NS hk hq]

/-- `e.attrib` is the attributes, none with a brace, then the extras, each under its Clark name: the first loop of the
    importer keeps the former, the second the latter -/
theorem attrsOf_attrib : attrsOf (attribOf NS (attrList a e ns pns)) = a := by
  rw [attribOf_attrList H NS, attrsOf_eq, List.filter_append,
    List.filter_eq_self.mpr fun kv hkv => by rw [brace_attrs H kv hkv]; rfl,
    List.filter_eq_nil_iff.mpr fun kv hkv => by rw [brace_extras H NS kv hkv]; decide,
    List.append_nil, foldl_set_fresh a [] H.a_nodup, List.nil_append]

theorem extrasOf_attrib (hsame : DictSame NS ns) (hnd : NS.keys.Nodup) : extrasOf NS (attribOf NS (attrList a e ns pns)) = e := by
  have hback : ∀ kv ∈ e, (formatExtras (clarkKey NS kv.1) NS, kv.2) = kv := fun kv hkv => by
    obtain ⟨q, l, hk, hq, _, hl, hres⟩ := H.e_form kv hkv
    rw [formatExtras_clarkKey hsame hnd H.ns_noxml hk hq hl hres]
  rw [attribOf_attrList H NS, extrasOf_eq, List.filter_append,
    List.filter_eq_nil_iff.mpr fun kv hkv => by rw [brace_attrs H kv hkv]; decide,
    List.filter_eq_self.mpr (brace_extras H NS), List.nil_append]
  simp only [List.map_map, Function.comp_def]
  rw [List.map_congr_left (g := id) hback, List.map_id, foldl_set_fresh e [] H.e_nodup, List.nil_append]

theorem nodeOK_of_hyp {scope : Dict} (hs : ScopeOK scope pns) (hsn : scope.keys.Nodup) :
    NodeOK scope pns n p a e ns ∧ (nsmapOf scope (attrList a e ns pns)).keys.Nodup := by
  have hsame := nodeOK_same H hs
  have hnd : (nsmapOf scope (attrList a e ns pns)).keys.Nodup :=
    nsmapOf_nodup scope _ (by rw [declsOf_attrList H]; exact nsDecl_nodup ns pns H.ns_nodup) hsn
  obtain ⟨h1, h2⟩ := tagOf_split n p H.name_nc H.pfx_nc
  exact ⟨⟨h1, h2, hsame, attrsOf_attrib H _, extrasOf_attrib H _ hsame hnd⟩, hnd⟩

end

mutual
def TreeHyp : Option Dict → Tree → Prop
  | pns, .mk _ n _ _ p a e ns cs => NodeHyp pns n p a e ns ∧ TreeHypL ns cs
def TreeHypL : Dict → List Tree → Prop
  | _, [] => True
  | pns, c :: cs => TreeHyp (some pns) c ∧ TreeHypL pns cs
end

theorem allOK_of_hyp_both :
    (∀ (t : Tree) (scope : Dict) (pns : Option Dict), TreeHyp pns t → ScopeOK scope pns → scope.keys.Nodup → AllOK scope pns t) ∧
    (∀ (cs : List Tree) (scope pns : Dict), TreeHypL pns cs → DictSame scope pns → scope.keys.Nodup → AllOKL scope pns cs) := by
  refine Tree.induct₂ (fun i n c tl p a e ns cs ih scope pns h hs hsn => ?_) (fun _ _ _ _ _ => by simp [AllOKL])
    (fun c cs ihc ihcs scope pns h hs hsn => ?_)
  · simp only [TreeHyp] at h
    simp only [AllOK]
    obtain ⟨hnode, hnd⟩ := nodeOK_of_hyp h.1 hs hsn
    exact ⟨hnode, ih _ ns h.2 hnode.same hnd⟩
  · simp only [TreeHypL] at h
    simp only [AllOKL]
    exact ⟨ihc scope (some pns) h.1 hs hsn, ihcs scope pns h.2 hs hsn⟩

theorem allOKL_of_hyp : ∀ (cs : List Tree) (scope pns : Dict), TreeHypL pns cs → DictSame scope pns → scope.keys.Nodup →
    AllOKL scope pns cs := allOK_of_hyp_both.2

theorem export_import (t : Tree) (h : TreeHyp none t) :
    ∃ t', processElement false false [] (resolveX [] (xElemG t none 0) []) [] = some t' ∧ RT t' t ∧ t'.tail = none := by
  have hok := allOK_of_hyp_both.1 t [] none h rfl List.nodup_nil
  obtain ⟨t', h1, h2, h3⟩ := imp_ok t [] none 0 [] [] hok (fun _ => rfl)
  exact ⟨t', h1, h2, by rw [h3]; rfl⟩

end Metapype
