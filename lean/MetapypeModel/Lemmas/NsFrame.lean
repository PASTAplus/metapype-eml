import MetapypeModel.Lemmas.NsHeapLemmas
/-
  Frame lemmas for the namespace operations: every write goes to a cell allocated
  during the call, and only nodes of the subtree are re-pointed.
  `add_namespace` and `remove_namespace` are one walk (`nsWalk`) around different steps on the node's own map.
-/
namespace Metapype

inductive Reach (kids : Nat → List Nat) : Nat → Nat → Prop
  | refl (n : Nat) : Reach kids n n
  | step {n c m : Nat} : c ∈ kids n → Reach kids c m → Reach kids n m

theorem Reach.snoc {K : Nat → List Nat} {a b c : Nat} (hab : Reach K a b) (hc : c ∈ K b) : Reach K a c := by
  induction hab with
  | refl n => exact Reach.step hc (Reach.refl c)
  | step hk _ ih => exact Reach.step hk (ih hc)

/-- what a call may do, relative to the allocation mark `base` taken when the outermost call started -/
structure Framed (base : Nat) (root : Nat) (H H' : NsHeap) : Prop where
  next_le : H.next ≤ H'.next
  cells : ∀ r, r < base → H'.cell r = H.cell r
  outside : ∀ m, ¬ Reach H.kids root m → H'.ns m = H.ns m
  moved : ∀ m, H'.ns m = H.ns m ∨ base ≤ H'.ns m
  kids_eq : H'.kids = H.kids
  refs : (∀ m, H.ns m < H.next) → ∀ m, H'.ns m < H'.next

theorem Framed.refl (base root : Nat) (H : NsHeap) : Framed base root H H :=
  ⟨Nat.le_refl _, fun _ _ => rfl, fun _ _ => rfl, fun _ => Or.inl rfl, rfl, fun h => h⟩

theorem Framed.trans {base root : Nat} {H1 H2 H3 : NsHeap} (a : Framed base root H1 H2) (b : Framed base root H2 H3) :
    Framed base root H1 H3 where
  next_le := Nat.le_trans a.next_le b.next_le
  cells r hr := by rw [b.cells r hr, a.cells r hr]
  outside m hm := by rw [b.outside m (a.kids_eq ▸ hm), a.outside m hm]
  moved m := by
    rcases b.moved m with h | h
    · exact h ▸ a.moved m
    · exact Or.inr h
  kids_eq := by rw [b.kids_eq, a.kids_eq]
  refs h := b.refs (a.refs h)

theorem Framed.lift {base c n : Nat} {H H' : NsHeap} (hc : c ∈ H.kids n) (a : Framed base c H H') : Framed base n H H' :=
  { a with outside := fun m hm => a.outside m (fun hr => hm (Reach.step hc hr)) }

theorem nsmapOf_unchanged {H H' : NsHeap} {n m : Nat} (hr : ∀ m, H.ns m < H.next) (hf : Framed H.next n H H')
    (hm : ¬ Reach H.kids n m) : H'.nsmapOf m = H.nsmapOf m := by
  rw [NsHeap.nsmapOf, hf.outside m hm, hf.cells _ (hr m)]
  rfl

theorem framed_setNs {base root : Nat} (H : NsHeap) (c r : Nat) (hr : r = H.ns c ∨ base ≤ r)
    (hlt : (∀ m, H.ns m < H.next) → r < H.next) (hc : Reach H.kids root c) : Framed base root H (H.setNs c r) where
  next_le := Nat.le_refl _
  cells _ _ := rfl
  outside m hm := if_neg fun (h : m = c) => hm (h ▸ hc)
  moved m := by
    rw [NsHeap.ns_setNs]
    split
    · subst m; exact hr
    · exact Or.inl rfl
  kids_eq := rfl
  refs h m := by
    rw [NsHeap.ns_setNs]
    split
    · exact hlt h
    · exact h m

theorem framed_setCell {base root : Nat} (H : NsHeap) (r : Nat) (d : Dict) (hr : base ≤ r) : Framed base root H (H.setCell r d) where
  next_le := Nat.le_refl _
  cells q hq := if_neg (by omega)
  outside _ _ := rfl
  moved _ := Or.inl rfl
  kids_eq := rfl
  refs h := h

theorem framed_alloc {base root : Nat} (H : NsHeap) (d : Dict) (hb : base ≤ H.next) : Framed base root H (H.alloc d).1 where
  next_le := Nat.le_succ _
  cells q hq := if_neg (by omega)
  outside _ _ := rfl
  moved _ := Or.inl rfl
  kids_eq := rfl
  refs h m := Nat.lt_succ_of_lt (h m)

/-- `self.nsmap = copy.deepcopy(...)` -/
theorem framed_fresh {base : Nat} (H : NsHeap) (n : Nat) (d : Dict) (hb : base ≤ H.next) :
    Framed base n H ((H.alloc d).1.setNs n (H.alloc d).2) :=
  (framed_alloc H d hb).trans (framed_setNs _ n _ (Or.inr hb) (fun _ => Nat.lt_succ_self _) (Reach.refl n))

/-- one turn of the children loop of `nsWalk` at the node `n`, on the child `c` from the heap `Hc` reached so far: a child
    that holds the object `id` is given the node's present object and walked with `id` handed on; `walk` is the recursive call -/
def nsWalkStep (walk : NsHeap → Nat → Option Nat → NsHeap) (n id : Nat) (Hc : NsHeap) (c : Nat) : NsHeap :=
  if Hc.ns c = id then walk (Hc.setNs c (Hc.ns n)) c (some id) else walk Hc c none

/-- the children loop shared by `add_namespace` and `remove_namespace` (node.py:201-206, 559-564), around a step `own`
    on the node's own map -/
def nsWalk (own : NsHeap → Nat → Option Nat → NsHeap) : Nat → NsHeap → Nat → Option Nat → NsHeap
  | 0, H, _, _ => H
  | fuel + 1, H, n, nsid => (H.kids n).foldl (nsWalkStep (nsWalk own fuel) n (nsid.getD (H.ns n))) (own H n nsid)

/-- `add_namespace` before its loop: copy-on-write at the entry call, then `self.nsmap[prefix] = namespace` -/
def addOwn (p u : String) (H : NsHeap) (n : Nat) (nsid : Option Nat) : NsHeap :=
  let H1 := match nsid with
    | none => (H.alloc (H.cell (H.ns n))).1.setNs n (H.alloc (H.cell (H.ns n))).2
    | some _ => H
  H1.setCell (H1.ns n) ((H1.cell (H1.ns n)).set p u)

/-- `remove_namespace` before its loop: a copy without the prefix, if the map has it -/
def removeOwn (p : String) (H : NsHeap) (n : Nat) (_ : Option Nat) : NsHeap :=
  if (H.cell (H.ns n)).has p then
    (H.alloc ((H.cell (H.ns n)).erase p)).1.setNs n (H.alloc ((H.cell (H.ns n)).erase p)).2
  else H

theorem addOwn_none (p u : String) (H : NsHeap) (n : Nat) :
    addOwn p u H n none = (H.alloc ((H.cell (H.ns n)).set p u)).1.setNs n H.next := by
  refine NsHeap.ext rfl rfl (funext fun q => ?_) rfl
  simp only [addOwn, NsHeap.cell_setCell, NsHeap.cell_setNs, NsHeap.cell_alloc, NsHeap.ns_setNs, NsHeap.alloc_snd, if_pos]
  split <;> rfl

theorem addOwn_some (p u : String) (H : NsHeap) (n i : Nat) :
    addOwn p u H n (some i) = H.setCell (H.ns n) ((H.cell (H.ns n)).set p u) := rfl

theorem removeOwn_has {p : String} {H : NsHeap} {n : Nat} (h : (H.cell (H.ns n)).has p = true) (nsid : Option Nat) :
    removeOwn p H n nsid = (H.alloc ((H.cell (H.ns n)).erase p)).1.setNs n H.next :=
  if_pos h

theorem removeOwn_lacks {p : String} {H : NsHeap} {n : Nat} (h : (H.cell (H.ns n)).has p = false) (nsid : Option Nat) :
    removeOwn p H n nsid = H :=
  if_neg (by rw [h]; exact Bool.false_ne_true)

theorem addNs_eq_walk (p u : String) (fuel : Nat) (H : NsHeap) (n : Nat) (nsid : Option Nat) :
    addNs fuel H n p u nsid = nsWalk (addOwn p u) fuel H n nsid := by
  induction fuel generalizing H n nsid with
  | zero => rfl
  | succ fuel ih =>
    simp only [addNs, nsWalk, ih]
    cases nsid <;> rfl

theorem removeNs_eq_walk (p : String) (fuel : Nat) (H : NsHeap) (n : Nat) (nsid : Option Nat) :
    removeNs fuel H n p nsid = nsWalk (removeOwn p) fuel H n nsid := by
  induction fuel generalizing H n nsid with
  | zero => rfl
  | succ fuel ih =>
    simp only [removeNs, nsWalk, ih]
    cases nsid <;> rfl

/-- `G i q`: a node about to be compared with the reference `i`, or just given its parent's object, may hold `q`: for add an
    object made since the mark (the in-place write goes to it), for remove also `i` itself. -/
theorem nsWalk_framed {own : NsHeap → Nat → Option Nat → NsHeap} {base : Nat} (G : Nat → Nat → Prop)
    (hG₁ : ∀ i q, base ≤ q → G i q) (hG₂ : ∀ i q, G i q → q = i ∨ base ≤ q)
    (hown : ∀ H n nsid, base ≤ H.next → (∀ i, nsid = some i → G i (H.ns n)) →
      Framed base n H (own H n nsid) ∧ G (nsid.getD (H.ns n)) ((own H n nsid).ns n))
    (fuel : Nat) (H : NsHeap) (n : Nat) (nsid : Option Nat) (hb : base ≤ H.next) (hG : ∀ i, nsid = some i → G i (H.ns n)) :
    Framed base n H (nsWalk own fuel H n nsid) := by
  induction fuel generalizing H n nsid with
  | zero => exact Framed.refl _ _ H
  | succ fuel ih =>
    obtain ⟨f1, g1⟩ := hown H n nsid hb hG
    refine f1.trans (List.foldlRecOn (motive := Framed base n (own H n nsid)) _ _ (Framed.refl _ _ _) ?_)
    intro Hc a c hc
    have hcn : c ∈ Hc.kids n := by rw [a.kids_eq, f1.kids_eq]; exact hc
    have hbc : base ≤ Hc.next := Nat.le_trans hb (Nat.le_trans f1.next_le a.next_le)
    -- the node's own pointer is still the tested reference or a fresh object, whatever earlier children did
    have gn : G (nsid.getD (H.ns n)) (Hc.ns n) := by
      rcases a.moved n with e | e
      · rw [e]; exact g1
      · exact hG₁ _ _ e
    refine a.trans ?_
    unfold nsWalkStep
    split
    · rename_i hid
      have s : Framed base n Hc (Hc.setNs c (Hc.ns n)) :=
        framed_setNs Hc c _ (hid ▸ hG₂ _ _ gn) (fun h => h n) (Reach.step hcn (Reach.refl c))
      exact s.trans (Framed.lift (H := Hc.setNs c (Hc.ns n)) hcn
        (ih _ c _ hbc (fun i hi => by cases hi; simpa using gn)))
    · exact Framed.lift hcn (ih Hc c none hbc (fun i hi => nomatch hi))

theorem addNs_framed (base : Nat) (p u : String) (fuel : Nat) (H : NsHeap) (n : Nat) (nsid : Option Nat)
    (hb : base ≤ H.next) (hn : ∀ i, nsid = some i → base ≤ H.ns n) : Framed base n H (addNs fuel H n p u nsid) := by
  rw [addNs_eq_walk]
  refine nsWalk_framed (fun _ q => base ≤ q) (fun _ _ h => h) (fun _ _ => Or.inr) ?_ fuel H n nsid hb hn
  intro H n nsid hb hn
  cases nsid with
  | none =>
    rw [addOwn_none]
    exact ⟨framed_fresh H n _ hb, by simpa using hb⟩
  | some i => exact ⟨framed_setCell _ _ _ (hn i rfl), hn i rfl⟩

theorem removeNs_framed (base : Nat) (p : String) (fuel : Nat) (H : NsHeap) (n : Nat) (nsid : Option Nat)
    (hb : base ≤ H.next) (hn : ∀ i, nsid = some i → H.ns n = i ∨ base ≤ H.ns n) :
    Framed base n H (removeNs fuel H n p nsid) := by
  rw [removeNs_eq_walk]
  refine nsWalk_framed (fun i q => q = i ∨ base ≤ q) (fun _ _ => Or.inr) (fun _ _ h => h) ?_ fuel H n nsid hb hn
  intro H n nsid hb hn
  cases h : (H.cell (H.ns n)).has p with
  | true =>
    rw [removeOwn_has h]
    exact ⟨framed_fresh H n _ hb, Or.inr (by simpa using hb)⟩
  | false =>
    rw [removeOwn_lacks h]
    refine ⟨Framed.refl _ _ _, ?_⟩
    cases nsid with
    | none => exact Or.inl rfl
    | some i => exact hn i rfl

theorem setNsSub_framed (r fuel : Nat) (H : NsHeap) (n : Nat) (hr : r < H.next) : Framed 0 n H (setNsSub fuel H n r) := by
  induction fuel generalizing H n with
  | zero => exact Framed.refl _ _ H
  | succ fuel ih =>
    have own := framed_setNs (base := 0) H n r (Or.inr (Nat.zero_le _)) (fun _ => hr) (Reach.refl n)
    refine List.foldlRecOn (motive := Framed 0 n H) _ _ own fun Hc a c hc => a.trans ?_
    exact Framed.lift (a.kids_eq ▸ hc) (ih Hc c (Nat.lt_of_lt_of_le hr a.next_le))

/-- the loop of `add_child` over the parent's bindings (node.py:187-189): a prefix the child lacks is declared on it -/
def attachFold (fuel c : Nat) (d : Dict) (H : NsHeap) : NsHeap :=
  d.foldl (fun Hc kv => if (Hc.nsmapOf c).has kv.1 then Hc else addNs fuel Hc c kv.1 kv.2 none) H

theorem attachFold_framed (base fuel c : Nat) (d : Dict) (H : NsHeap) (hb : base ≤ H.next) :
    Framed base c H (attachFold fuel c d H) := by
  refine List.foldlRecOn (motive := Framed base c H) _ _ (Framed.refl _ _ _) fun Hc a kv _ => ?_
  split
  · exact a
  · exact a.trans (addNs_framed base _ _ fuel Hc c none (Nat.le_trans hb a.next_le) nofun)

end Metapype
