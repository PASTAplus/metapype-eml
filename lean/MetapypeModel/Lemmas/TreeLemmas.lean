import MetapypeModel.Model.Tree
/-
  Induction on trees, and the node ids of a tree in document order.
-/
namespace Metapype

theorem Tree.induct₂ {P : Tree → Prop} {Q : List Tree → Prop}
    (mk : ∀ i n c tl p a e ns cs, Q cs → P (.mk i n c tl p a e ns cs))
    (nil : Q []) (cons : ∀ c cs, P c → Q cs → Q (c :: cs)) : (∀ t, P t) ∧ ∀ cs, Q cs :=
  ⟨fun t => Tree.rec mk nil cons t, fun cs => Tree.rec_1 mk nil cons cs⟩

theorem Tree.inductL {Q : List Tree → Prop} (nil : Q [])
    (cons : ∀ i n c tl p a e ns ks cs, Q ks → Q cs → Q (.mk i n c tl p a e ns ks :: cs)) : ∀ cs, Q cs :=
  (Tree.induct₂ (P := fun t => ∀ cs, Q cs → Q (t :: cs)) (fun i n c tl p a e ns ks hk cs => cons i n c tl p a e ns ks cs hk)
    nil (fun _ cs hc h => hc cs h)).2

theorem Tree.preorderL_eq_flatMap (cs : List Tree) : Tree.preorderL cs = cs.flatMap Tree.preorder := by
  induction cs with
  | nil => rfl
  | cons c cs ih => rw [Tree.preorderL, ih, List.flatMap_cons]

theorem Tree.preorder_eq (t : Tree) : t.preorder = t :: Tree.preorderL t.children := by
  cases t
  rfl

theorem Tree.mem_preorder_self (t : Tree) : t ∈ t.preorder := t.preorder_eq ▸ List.mem_cons_self

def Tree.ids (t : Tree) : List String := (Tree.preorder t).map Tree.id
def Tree.idsL (cs : List Tree) : List String := (Tree.preorderL cs).map Tree.id

@[simp] theorem ids_mk (i n : String) (c tl p : Option String) (a e ns : Dict) (cs : List Tree) :
    (Tree.mk i n c tl p a e ns cs).ids = i :: Tree.idsL cs := rfl
@[simp] theorem idsL_nil : Tree.idsL [] = [] := rfl
@[simp] theorem idsL_cons (c : Tree) (cs : List Tree) : Tree.idsL (c :: cs) = c.ids ++ Tree.idsL cs := List.map_append

theorem Tree.idsL_eq_flatMap (cs : List Tree) : Tree.idsL cs = cs.flatMap Tree.ids := by
  simp only [Tree.idsL, Tree.preorderL_eq_flatMap, List.map_flatMap]; rfl

theorem idsL_append (a b : List Tree) : Tree.idsL (a ++ b) = Tree.idsL a ++ Tree.idsL b := by
  simp only [Tree.idsL_eq_flatMap, List.flatMap_append]

theorem Tree.id_mem_ids (t : Tree) : t.id ∈ t.ids := List.mem_map_of_mem t.mem_preorder_self

end Metapype
