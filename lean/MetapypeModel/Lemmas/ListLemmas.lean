/- list facts that core's library does not have -/
namespace Metapype

theorem nodup_of_map {α β : Type} (f : α → β) {l : List α} (h : (l.map f).Nodup) : l.Nodup :=
  List.Pairwise.of_map f (fun _ _ hne heq => hne (congrArg f heq)) h

theorem all_flatten_replicate {α : Type} (p : α → Bool) {w : List α} (h : w.all p = true) (n : Nat) :
    (List.replicate n w).flatten.all p = true := by
  rw [List.all_flatten, List.all_replicate, h]
  exact ite_self true

theorem filterMap_congr_mem {α β : Type} {f g : α → Option β} {l : List α} (h : ∀ x ∈ l, f x = g x) :
    l.filterMap f = l.filterMap g := by
  induction l with
  | nil => rfl
  | cons x l ih =>
    rw [List.filterMap_cons, List.filterMap_cons, h x List.mem_cons_self, ih fun y hy => h y (List.mem_cons_of_mem _ hy)]

theorem filterMap_eq_map_mem {α β : Type} {f : α → Option β} {g : α → β} {l : List α} (h : ∀ x ∈ l, f x = some (g x)) :
    l.filterMap f = l.map g := by
  rw [filterMap_congr_mem h, List.filterMap_eq_map']

theorem filterMap_nodup_of_inj {α β : Type} (f : α → Option β) (l : List α) (hl : l.Nodup)
    (hinj : ∀ x ∈ l, ∀ y ∈ l, ∀ b, f x = some b → f y = some b → x = y) : (l.filterMap f).Nodup :=
  List.pairwise_filterMap.mpr <| hl.imp_of_mem fun hx hy hne b hb _ hb' e => hne (hinj _ hx _ hy b hb (e ▸ hb'))

theorem eq_of_mem_of_nodup_map {α β : Type} (f : α → β) {l : List α} (h : (l.map f).Nodup) {x y : α}
    (hx : x ∈ l) (hy : y ∈ l) : f x = f y → x = y := by
  -- at two different positions the images differ, so there the implication holds, read in either direction
  have hp : l.Pairwise (fun a b => f a ≠ f b) := List.pairwise_map.mp h
  exact List.Pairwise.forall_of_forall_of_flip (R := fun a b => f a = f b → a = b) (fun _ _ _ => rfl)
    (hp.imp fun hne e => absurd e hne) (hp.imp fun hne e => absurd e.symm hne) hx hy

theorem subset_of_nodup_length {α : Type} [DecidableEq α] (a b : List α) (ha : a.Nodup) (hs : ∀ x ∈ a, x ∈ b)
    (hl : b.length ≤ a.length) : ∀ x ∈ b, x ∈ a := by
  intro x hx
  apply Decidable.byContradiction
  intro hxa
  -- otherwise `a` fits into `b` without `x`, which is shorter than `a`
  have hsub : a ⊆ b.erase x := fun y hy => (List.mem_erase_of_ne (fun e : y = x => hxa (e ▸ hy))).mpr (hs y hy)
  have h1 := ha.length_le_of_subset hsub
  rw [List.length_erase_of_mem hx] at h1
  have h2 := List.length_pos_of_mem hx
  omega

theorem nodup_map_range' {β : Type} (u : Nat → β) (hu : Function.Injective u) (s n : Nat) :
    ((List.range' s n).map u).Nodup :=
  List.Pairwise.map u (fun _ _ hab he => hab (hu he)) List.nodup_range'

theorem mem_map_range' {β : Type} {u : Nat → β} {s n : Nat} {x : β} (h : x ∈ (List.range' s n).map u) :
    ∃ k, s ≤ k ∧ x = u k := by
  obtain ⟨k, hk, rfl⟩ := List.mem_map.mp h
  exact ⟨k, (List.mem_range'_1.mp hk).1, rfl⟩

/-- two lists with equal images run in step: every element of the first has its partner at the same position of the second -/
theorem exists_zip_of_map_eq {α β γ : Type} {f : α → γ} {g : β → γ} : ∀ {l₁ : List α} {l₂ : List β}, l₁.map f = l₂.map g →
    ∀ a ∈ l₁, ∃ b, (a, b) ∈ l₁.zip l₂ ∧ f a = g b
  | [], _, _, _, ha => nomatch ha
  | _ :: _, [], h, _, _ => nomatch h
  | x :: xs, y :: ys, h, a, ha => by
    obtain ⟨hxy, hrest⟩ := List.cons.inj h
    rcases List.mem_cons.mp ha with rfl | ha
    · exact ⟨y, List.mem_cons_self, hxy⟩
    · obtain ⟨b, hb, hab⟩ := exists_zip_of_map_eq hrest a ha
      exact ⟨b, List.mem_cons_of_mem _ hb, hab⟩

end Metapype
