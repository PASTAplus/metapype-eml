import MetapypeModel.Lemmas.ListLemmas
import MetapypeModel.Model.Equal
/-
  Dictionaries as finite maps.  Lookup has one equation per constructor (`get?_nil`, `get?_cons`); assignment, concatenation,
  filtering and the assignment loop are described by what a lookup in the result gives; the length-then-keys comparison
  decides map equality when keys are unique.
-/
namespace Metapype

def DictSame (a b : Dict) : Prop := ∀ k, a.get? k = b.get? k

@[simp] theorem get?_nil (k : String) : Dict.get? [] k = none := rfl

theorem get?_cons (kv : String × String) (d : Dict) (k : String) :
    Dict.get? (kv :: d) k = if kv.1 = k then some kv.2 else d.get? k := by
  by_cases h : kv.1 = k <;> simp [Dict.get?, h]

theorem has_eq_isSome (d : Dict) (k : String) : d.has k = (d.get? k).isSome := by
  rw [Dict.get?, Option.isSome_map, List.isSome_find?, Dict.has]

theorem has_iff_get? (d : Dict) (k : String) : d.has k = true ↔ ∃ v, d.get? k = some v := by
  rw [has_eq_isSome, Option.isSome_iff_exists]

theorem get?_none_iff (a : Dict) (k : String) : a.get? k = none ↔ k ∉ a.keys := by
  simp only [Dict.get?, Dict.keys, Option.map_eq_none_iff, List.find?_eq_none, List.mem_map, beq_iff_eq, not_exists, not_and]

theorem mem_of_get? (a : Dict) (k v : String) (h : a.get? k = some v) : (k, v) ∈ a := by
  obtain ⟨kv, hf, rfl⟩ := Option.map_eq_some_iff.mp h
  obtain rfl : kv.1 = k := beq_iff_eq.mp (List.find?_some hf :)
  exact List.mem_of_find?_eq_some hf

theorem has_of_mem (d : Dict) (kv : String × String) (h : kv ∈ d) : d.has kv.1 = true :=
  List.any_eq_true.mpr ⟨kv, h, beq_self_eq_true _⟩

theorem get?_of_mem_nodup (a : Dict) (hn : a.keys.Nodup) (k v : String) (h : (k, v) ∈ a) : a.get? k = some v := by
  induction a with
  | nil => cases h
  | cons kv t ih =>
    simp only [Dict.keys, List.map_cons, List.nodup_cons] at hn
    rw [get?_cons]
    rcases List.mem_cons.mp h with rfl | h
    · simp
    · rw [if_neg (fun e => hn.1 (List.mem_map.mpr ⟨(k, v), h, e.symm⟩))]
      exact ih hn.2 h

theorem dictEq_iff (a b : Dict) (ha : a.keys.Nodup) (hb : b.keys.Nodup) : dictEq a b = true ↔ DictSame a b := by
  simp only [dictEq, Bool.and_eq_true, beq_iff_eq, List.all_eq_true]
  constructor
  · rintro ⟨hl, hall⟩ k
    have hsub : ∀ x ∈ a.keys, x ∈ b.keys := fun x hx => by
      obtain ⟨kv, hkv, rfl⟩ := List.mem_map.mp hx
      exact List.mem_map.mpr ⟨_, mem_of_get? b kv.1 kv.2 (hall kv hkv), rfl⟩
    cases hg : a.get? k with
    | some v => exact (hall (k, v) (mem_of_get? a k v hg)).symm
    | none =>
      -- `b` has no more keys than `a`, so none besides those of `a`
      have hback := subset_of_nodup_length a.keys b.keys ha hsub (by simp [Dict.keys, hl])
      exact ((get?_none_iff b k).mpr fun h => (get?_none_iff a k).mp hg (hback k h)).symm
  · intro hs
    have hk : ∀ x, x ∈ a.keys ↔ x ∈ b.keys := fun x => by
      rw [← Decidable.not_iff_not, ← get?_none_iff, ← get?_none_iff, hs x]
    refine ⟨?_, fun kv hkv => hs kv.1 ▸ get?_of_mem_nodup a ha kv.1 kv.2 hkv⟩
    -- the same keys, none twice: as many
    simpa [Dict.keys] using ((List.perm_ext_iff_of_nodup ha hb).mpr hk).length_eq

theorem get?_set (d : Dict) (k v x : String) : (d.set k v).get? x = if k = x then some v else d.get? x := by
  induction d with
  | nil => simp [Dict.set, get?_cons]
  | cons kv d ih =>
    simp only [Dict.set, beq_iff_eq]
    by_cases hk : kv.1 = k
    · subst hk
      rw [if_pos rfl, get?_cons, get?_cons]
      by_cases hx : kv.1 = x <;> simp [hx]
    · rw [if_neg hk, get?_cons, get?_cons, ih]
      by_cases hx : kv.1 = x
      · subst hx
        simp [Ne.symm hk]
      · simp [hx]

theorem get?_set_self (d : Dict) (k v : String) : (d.set k v).get? k = some v := by
  rw [get?_set, if_pos rfl]

theorem get?_set_ne (d : Dict) (k v x : String) (h : x ≠ k) : (d.set k v).get? x = d.get? x := by
  rw [get?_set, if_neg (Ne.symm h)]

theorem has_set (d : Dict) (k v x : String) : (d.set k v).has x = (d.has x || x == k) := by
  simp only [has_eq_isSome, get?_set]
  by_cases h : k = x
  · simp [h]
  · simp [h, Ne.symm h]

theorem set_of_not_mem (d : Dict) (k v : String) (h : k ∉ d.keys) : d.set k v = d ++ [(k, v)] := by
  induction d with
  | nil => rfl
  | cons kv d ih =>
    simp only [Dict.keys, List.map_cons, List.mem_cons, not_or] at h
    simp only [Dict.set, beq_iff_eq, if_neg (Ne.symm h.1), List.cons_append, ih h.2]

theorem set_set_self (d : Dict) (k v : String) : (d.set k v).set k v = d.set k v := by
  fun_induction Dict.set d k v with
  | case1 k v => simp [Dict.set]                            -- empty dict
  | case2 k' v' d k v h => rw [Dict.set, if_pos h]          -- the first entry has the key
  | case3 k' v' d k v h ih => rw [Dict.set, if_neg h, ih]   -- the first entry has another key

theorem get?_foldl_set (decls base : Dict) (k : String) (hnd : decls.keys.Nodup) :
    (decls.foldl (fun d kv => d.set kv.1 kv.2) base).get? k = (decls.get? k).or (base.get? k) := by
  induction decls generalizing base with
  | nil => rfl
  | cons kv decls ih =>
    simp only [Dict.keys, List.map_cons, List.nodup_cons] at hnd
    rw [List.foldl_cons, ih _ hnd.2, get?_set, get?_cons]
    by_cases hk : kv.1 = k
    · rw [if_pos hk, if_pos hk, (get?_none_iff decls k).mpr (hk ▸ hnd.1)]
      rfl
    · rw [if_neg hk, if_neg hk]

theorem foldl_set_fresh (d acc : Dict) (h : (acc.keys ++ d.keys).Nodup) :
    d.foldl (fun x kv => x.set kv.1 kv.2) acc = acc ++ d := by
  induction d generalizing acc with
  | nil => simp
  | cons kv d ih =>
    have hk : kv.1 ∉ acc.keys := fun hm => (List.nodup_append.mp h).2.2 _ hm _ List.mem_cons_self rfl
    rw [List.foldl_cons, set_of_not_mem acc _ _ hk, ih, List.append_assoc, List.singleton_append]
    simpa [Dict.keys] using h

theorem get?_append (a b : Dict) (k : String) : (a ++ b).get? k = (a.get? k).or (b.get? k) := by
  rw [Dict.get?, List.find?_append, Option.map_or]
  rfl

theorem keys_filter_nodup (d : Dict) (f : String × String → Bool) (h : d.keys.Nodup) : (Dict.keys (d.filter f)).Nodup :=
  h.sublist (List.Sublist.map _ List.filter_sublist)

theorem get?_filter_key (q : String → Bool) (d : Dict) (k : String) :
    Dict.get? (d.filter (fun kv => q kv.1)) k = if q k then d.get? k else none := by
  induction d with
  | nil => simp
  | cons kv d ih =>
    rw [List.filter_cons]
    by_cases hk : kv.1 = k
    · subst hk
      by_cases hq : q kv.1 <;> simp [hq, get?_cons, ih]
    · by_cases hq : q kv.1 <;> simp [hq, get?_cons, hk, ih]

theorem get?_erase (d : Dict) (k x : String) : (d.erase k).get? x = if x != k then d.get? x else none :=
  get?_filter_key (· != k) d x

theorem has_erase (d : Dict) (k x : String) : (d.erase k).has x = (d.has x && x != k) := by
  simp only [has_eq_isSome, get?_erase]
  by_cases h : x = k <;> simp [h]

theorem has_erase_self (d : Dict) (k : String) : (d.erase k).has k = false := by
  simp [has_erase]

theorem get?_filter (p : String × String → Bool) : ∀ (d : Dict) (k : String), d.keys.Nodup →
    Dict.get? (d.filter p) k = match Dict.get? d k with | some v => if p (k, v) then some v else none | none => none := by
  intro d k hnd
  induction d with
  | nil => simp
  | cons kv d ih =>
    simp only [Dict.keys, List.map_cons, List.nodup_cons] at hnd
    rw [List.filter_cons, get?_cons]
    by_cases hk : kv.1 = k
    · subst hk
      have hno : Dict.get? (d.filter p) kv.1 = none := (get?_none_iff _ _).mpr fun h =>
        hnd.1 (List.Sublist.subset (List.Sublist.map _ List.filter_sublist) h)
      by_cases hp : p kv <;> simp [hp, get?_cons, hno]
    · rw [if_neg hk, ← ih hnd.2]
      by_cases hp : p kv <;> simp [hp, get?_cons, hk]

end Metapype
