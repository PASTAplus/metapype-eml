import MetapypeModel.Model.XmlGrammar
/-
  Building denotations in the XML grammar (Model/XmlGrammar.lean): what the two escaping functions write denotes the text
  they were given; denotations of character data, attribute lists and child lists concatenate; and the two shapes in which
  both exporters lay out children - a child on a line of its own, a block of such lines between the tags.
-/
namespace Metapype

theorem escChar_cases (c : Char) :
    (c = '&' ∧ escChar c = "&amp;".toList) ∨ (c = '<' ∧ escChar c = "&lt;".toList) ∨
    (c = '>' ∧ escChar c = "&gt;".toList) ∨ (c ≠ '&' ∧ c ≠ '<' ∧ c ≠ '>' ∧ escChar c = [c]) := by
  unfold escChar
  by_cases h1 : c = '&'
  · exact .inl ⟨h1, if_pos h1⟩
  · by_cases h2 : c = '<'
    · exact .inr (.inl ⟨h2, by rw [if_neg h1, if_pos h2]⟩)
    · by_cases h3 : c = '>'
      · exact .inr (.inr (.inl ⟨h3, by rw [if_neg h1, if_neg h2, if_pos h3]⟩))
      · exact .inr (.inr (.inr ⟨h1, h2, h3, by rw [if_neg h1, if_neg h2, if_neg h3]⟩))

theorem escChar_no_lt (c : Char) : '<' ∉ escChar c := by
  rcases escChar_cases c with ⟨_, h⟩ | ⟨_, h⟩ | ⟨_, h⟩ | ⟨_, h2, _, h⟩ <;> rw [h]
  · rw [String.toList_ofList]
    decide
  · rw [String.toList_ofList]
    decide
  · rw [String.toList_ofList]
    decide
  · simpa using Ne.symm h2

theorem escAttrChar_no_quote (c : Char) : '"' ∉ escAttrChar c := by
  unfold escAttrChar
  by_cases h0 : c = '"'
  · rw [if_pos h0, String.toList_ofList]
    decide
  · rw [if_neg h0]
    rcases escChar_cases c with ⟨_, h⟩ | ⟨_, h⟩ | ⟨_, h⟩ | ⟨_, _, _, h⟩ <;> rw [h]
    · rw [String.toList_ofList]
      decide
    · rw [String.toList_ofList]
      decide
    · rw [String.toList_ofList]
      decide
    · simpa using Ne.symm h0

theorem escAttrChar_no_lt (c : Char) : '<' ∉ escAttrChar c := by
  unfold escAttrChar
  split
  · rw [String.toList_ofList]
    decide
  · exact escChar_no_lt c

theorem CharData.esc (c : Char) (hc : xmlChar c = true) {s v : Str} (h : CharData s v) : CharData (escChar c ++ s) (c :: v) := by
  rcases escChar_cases c with ⟨rfl, e⟩ | ⟨rfl, e⟩ | ⟨rfl, e⟩ | ⟨h1, h2, h3, e⟩ <;> rw [e]
  · exact .amp h
  · exact .lt h
  · exact .gt h
  · exact .lit c hc h2 h1 h3 h

theorem AttValue.esc (c : Char) (hc : xmlChar c = true) {s v : Str} (h : AttValue s v) : AttValue (escAttrChar c ++ s) (c :: v) := by
  unfold escAttrChar
  by_cases h0 : c = '"'
  · subst h0
    exact .quot h
  · rw [if_neg h0]
    rcases escChar_cases c with ⟨rfl, e⟩ | ⟨rfl, e⟩ | ⟨rfl, e⟩ | ⟨h1, h2, h3, e⟩ <;> rw [e]
    · exact .amp h
    · exact .lt h
    · exact .gt h
    · exact .lit c hc h2 h1 h0 h

theorem escapeText_den (s : Str) (h : ∀ c ∈ s, xmlChar c = true) : CharData (escapeText s) s := by
  induction s with
  | nil => exact CharData.nil
  | cons c s ih =>
    rw [escapeText, List.flatMap_cons]
    exact CharData.esc c (h c List.mem_cons_self) (ih fun x hx => h x (List.mem_cons_of_mem _ hx))

theorem escapeAttr_den (s : Str) (h : ∀ c ∈ s, xmlChar c = true) : AttValue (escapeAttr s) s := by
  induction s with
  | nil => exact AttValue.nil
  | cons c s ih =>
    rw [escapeAttr, List.flatMap_cons]
    exact AttValue.esc c (h c List.mem_cons_self) (ih fun x hx => h x (List.mem_cons_of_mem _ hx))

theorem AttrsDen.append {s₁ s₂ : Str} {a₁ a₂ : List (Str × Str)} (h1 : AttrsDen s₁ a₁) (h2 : AttrsDen s₂ a₂) :
    AttrsDen (s₁ ++ s₂) (a₁ ++ a₂) := by
  induction h1 with
  | nil => exact h2
  | cons hk hv _ ih =>
    rw [List.append_assoc]
    exact AttrsDen.cons hk hv ih

theorem DenL.append {s₁ s₂ : Str} {x₁ x₂ : List X} (h1 : DenL s₁ x₁) (h2 : DenL s₂ x₂) : DenL (s₁ ++ s₂) (x₁ ++ x₂) := by
  induction h1 using DenL.rec (motive_1 := fun _ _ _ => True) with
  | nil => exact h2
  | text hc _ ih =>
    rw [List.append_assoc]
    exact DenL.text hc ih
  | elem he _ _ ih =>
    rw [List.append_assoc]
    exact DenL.elem he ih
  | empty => trivial
  | pair => trivial

theorem CharData.nl {s v : Str} (h : CharData s v) : CharData ("\n".toList ++ s) ("\n".toList ++ v) :=
  .lit '\n' (by decide) (by decide) (by decide) (by decide) h

theorem DenL.single {s v : Str} (h : CharData s v) : DenL s [.text v] := by
  have := DenL.text h DenL.nil
  rwa [List.append_nil] at this

theorem DenL.child {ind iv e tl tv rest : Str} {x : X} {xs : List X} (hi : CharData ind iv) (he : Den e x)
    (ht : CharData tl tv) (hr : DenL rest xs) : DenL (ind ++ e ++ tl ++ rest) ([.text iv, x, .text tv] ++ xs) := by
  rw [List.append_assoc, List.append_assoc]
  exact DenL.text hi (DenL.elem he (DenL.text ht hr))

theorem DenL.block {body ind iv : Str} {kids : List X} (hk : DenL body kids) (hi : CharData ind iv) :
    DenL ("\n".toList ++ body ++ ind) ([X.text "\n".toList] ++ kids ++ [X.text iv]) := by
  rw [List.append_assoc, List.append_assoc]
  exact DenL.text (CharData.nl .nil) (DenL.append (x₁ := kids) hk (DenL.single hi))

end Metapype
