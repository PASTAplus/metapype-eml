import MetapypeModel.Lemmas.ExportShape
import MetapypeModel.Lemmas.TreeLemmas
/-
  C07 — XML export is well-formed and round-trips the tree.

  Well-formedness is stated against the relational grammar `Den` of Model/XmlGrammar.lean (my reading of
  XML 1.0 for the subset the exporters emit; lxml and expat validate it only through the correspondence
  check).  The theorems are for every legal tree, by induction on trees
  (a tree and its child list together, `Tree.induct₂`).
-/
namespace Metapype

/-- escaped text holds no `<`: it cannot open a tag (that every `&` in it starts one of the three entities is part of
    `escapeText_den`) -/
theorem escapeText_no_lt (s : Str) : '<' ∉ escapeText s :=
  fun h => (List.mem_flatMap.mp h).elim fun c hc => escChar_no_lt c hc.2

theorem escapeAttr_no_quote_lt (s : Str) : '"' ∉ escapeAttr s ∧ '<' ∉ escapeAttr s :=
  ⟨fun h => (List.mem_flatMap.mp h).elim fun c hc => escAttrChar_no_quote c hc.2,
   fun h => (List.mem_flatMap.mp h).elim fun c hc => escAttrChar_no_lt c hc.2⟩

def attrValOK (v : String) : Prop := ∀ c ∈ v.toList, xmlChar c = true
def textOK (s : Option String) : Prop := ∀ x, s = some x → ∀ c ∈ x.toList, xmlChar c = true
def dictOK (pfx : Str) (d : Dict) : Prop := ∀ kv ∈ d, qName (pfx ++ kv.1.toList) = true ∧ attrValOK kv.2

mutual
/-- XML-legal names, XML characters in every value, pairwise distinct attribute names on each element -/
def Legal : Tree → Option Dict → Prop
  | .mk _ n c tl p a e ns cs, parentNs =>
      qName (tagOf n p) = true ∧ dictOK [] a ∧ dictOK "xmlns:".toList (nsDecl ns parentNs) ∧ dictOK [] e ∧
      ((attrList a e ns parentNs).map (·.1)).Nodup ∧ textOK c ∧ textOK tl ∧ LegalL cs ns
def LegalL : List Tree → Dict → Prop
  | [], _ => True
  | c :: cs, pns => Legal c (some pns) ∧ LegalL cs pns
end

theorem attrItems_den (pfx : Str) (d : Dict) (h : dictOK pfx d) :
    AttrsDen (attrItems pfx d) (d.map (fun kv => (pfx ++ kv.1.toList, kv.2.toList))) := by
  induction d with
  | nil => exact .nil
  | cons kv d ih =>
    have ⟨hkv, hd⟩ := List.forall_mem_cons.mp h
    -- the grammar rule brackets the name, prefix included, as one piece
    rw [attrItems, List.flatMap_cons, List.append_assoc " ".toList]
    exact AttrsDen.cons hkv.1 (escapeAttr_den kv.2.toList hkv.2) (ih hd)

theorem attrString_den (a e ns : Dict) (parentNs : Option Dict)
    (ha : dictOK [] a) (hn : dictOK "xmlns:".toList (nsDecl ns parentNs)) (he : dictOK [] e) :
    AttrsDen (attrString a e ns parentNs) (attrList a e ns parentNs) := by
  unfold attrString attrList
  have h1 := attrItems_den [] a ha
  have h2 := attrItems_den "xmlns:".toList (nsDecl ns parentNs) hn
  have h3 := attrItems_den [] e he
  simp only [List.nil_append] at h1 h3
  exact AttrsDen.append (AttrsDen.append h1 (by unfold nsDecl at h2; exact h2)) h3

theorem indent_ws (level : Nat) : (indentOf level).all isWs = true := indentOf_ws level

theorem nl_tail_chardata {t : Tree} {pns : Option Dict} (h : Legal t pns) :
    CharData ("\n".toList ++ tailStr t) ("\n".toList ++ tailText t) := by
  obtain ⟨i, n, c, tl, p, a, e, ns, cs⟩ := t
  simp only [Legal] at h
  obtain ⟨-, -, -, -, -, -, htail, -⟩ := h
  refine CharData.nl ?_
  cases tl with
  | none => exact .nil
  | some x => exact escapeText_den x.toList (htail x rfl)

theorem elemStrG_den_both :
    (∀ (t : Tree) (parentNs : Option Dict) (level : Nat), Legal t parentNs →
      Den (elemStrG t parentNs level) (xElemG t parentNs level)) ∧
    (∀ (cs : List Tree) (pns : Dict) (level : Nat), LegalL cs pns → DenL (toXmlGL cs pns level) (xKidsG cs pns level)) := by
  refine Tree.induct₂ (fun i n c tl p a e ns cs ih parentNs level h => ?_) (fun _ _ _ => DenL.nil)
    (fun c cs ihc ihcs pns level h => ?_)
  · simp only [Legal] at h
    obtain ⟨hq, ha, hn, he, hnd, hc, _, hkids⟩ := h
    have hattrs := attrString_den a e ns parentNs ha hn he
    have hk := ih ns (level + 1) hkids
    cases c with
    | none =>
      cases cs with
      | nil => exact Den.empty hq hattrs hnd
      | cons k ks => exact Den.pair hq hattrs hnd (DenL.block hk (CharData.ws (indent_ws level)))
    | some content => exact Den.pair hq hattrs hnd (DenL.text (escapeText_den content.toList (hc content rfl)) hk)
  · simp only [LegalL] at h
    have := DenL.child (CharData.ws (indent_ws level)) (ihc (some pns) level h.1) (nl_tail_chardata h.1)
      (ihcs pns level h.2)
    simpa only [toXmlGL, xKidsG, List.append_assoc] using this

theorem toXmlGL_den : ∀ (cs : List Tree) (pns : Dict) (level : Nat), LegalL cs pns →
    DenL (toXmlGL cs pns level) (xKidsG cs pns level) := elemStrG_den_both.2

/-- the general exporter emits a well-formed document for every legal tree without a tail on the root -/
theorem C07_general_wellformed (t : Tree) (h : Legal t none) (hroot : t.tail = none) :
    DocDen (toXmlG t none 0) (xElemG t none 0) := by
  refine ⟨elemStrG t none 0, "\n".toList, ?_, elemStrG_den_both.1 t none 0 h, by decide⟩
  simp [toXmlG, tailStr, hroot, indentOf]

theorem wsStrip_pad (w₁ s w₂ : Str) (h1 : w₁.all isWs = true) (h2 : w₂.all isWs = true) : wsStrip (w₁ ++ s ++ w₂) = wsStrip s := by
  rw [wsStrip_eq, wsStrip_eq, trim_pad w₁ s w₂ h1 h2]

theorem xElemG_is_elem (t : Tree) (p : Option Dict) (l : Nat) : ∃ tg as ks, xElemG t p l = .elem tg as ks :=
  xElemG_elem t p l

/-- child order and surrounding text of the denoted element, for the four shapes of a node -/
theorem C07_general_children (i n : String) (c tl p : Option String) (a e ns : Dict) (cs : List Tree)
    (parentNs : Option Dict) (level : Nat) :
    ∃ kids, xElemG (.mk i n c tl p a e ns cs) parentNs level = .elem (tagOf n p) (attrList a e ns parentNs) kids ∧
      (collect kids).2 = pairsG ns (level + 1) (match c with | none => indentOf level | some _ => []) cs ∧
      wsStrip (collect kids).1 = wsStrip (match c with | some x => x.toList | none => []) :=
  xElemG_children i n c tl p a e ns cs parentNs level

/-- the text that follows a child element is its tail up to surrounding white space -/
theorem C07_general_tail (pns : Dict) (level : Nat) (closing : Str) (hc : closing.all isWs = true) (cs : List Tree) :
    ∀ p ∈ (pairsG pns level closing cs).zip cs, wsStrip p.1.2 = wsStrip (tailText p.2) := by
  induction cs with
  | nil => exact fun _ hp => nomatch hp
  | cons c cs ih =>
    exact List.forall_mem_cons.mpr ⟨wsStrip_pad "\n".toList (tailText c) _ rfl (sepAfter_ws hc level cs), ih⟩

/-- with namespace maps that include their parent's (`hclosed`), re-declaring only the bindings that differ
    from the parent reconstructs exactly the child's map on re-parsing -/
theorem C07_ns_scoping (child parent : Dict) (hc : child.keys.Nodup)
    (hclosed : ∀ k, Dict.get? parent k ≠ none → Dict.get? child k ≠ none) :
    ∀ k, Dict.get? (inScope parent (nspUnique child parent)) k = Dict.get? child k :=
  inScope_nspUnique_get? child parent hc hclosed

def boilerDict : Dict :=
  [("xmlns:eml", "https://eml.ecoinformatics.org/eml-2.2.0"), ("xmlns:stmml", "http://www.xml-cml.org/schema/stmml-1.2"),
   ("xmlns:xsi", "http://www.w3.org/2001/XMLSchema-instance"),
   ("xsi:schemaLocation", "https://eml.ecoinformatics.org/eml-2.2.0 https://nis.lternet.edu/schemas/EML/eml-2.2.0/xsd/eml.xsd")]

/- Both facts are about a fixed table and are evaluated by the kernel, on character lists: every string literal is first
   turned into its list (`String.toList_ofList`), since evaluating `"…".toList` in the kernel decodes the UTF-8 bytes of the
   literal at a cost quadratic in its length. -/
theorem boiler_items : attrItems [] boilerDict = " ".toList ++ emlBoiler := by
  unfold emlBoiler boilerDict attrItems
  simp only [String.toList_append, List.flatMap_cons, List.flatMap_nil]
  repeat rw [String.toList_ofList]
  decide +kernel

theorem boiler_ok : dictOK [] boilerDict := by
  unfold dictOK attrValOK boilerDict
  simp only [List.forall_mem_cons, List.nil_append]
  repeat rw [String.toList_ofList]
  decide +kernel

def isEmlRoot (n : String) (level : Nat) : Bool := level == 0 && n == "eml"
def nameE (n : String) (level : Nat) : Str := if isEmlRoot n level then n.toList ++ ":".toList ++ n.toList else n.toList
def attrListE (a : Dict) (n : String) (level : Nat) : List (Str × Str) :=
  a.map (fun kv => (kv.1.toList, kv.2.toList)) ++
  (if isEmlRoot n level then boilerDict.map (fun kv => (kv.1.toList, kv.2.toList)) else [])

mutual
/-- the property's quantifier for the EML exporter: legal names and characters, no node carries both text and
    children, and content is free of the spellings the documented workaround treats specially -/
def LegalE : Tree → Nat → Prop
  | .mk _ n c _ _ a _ _ cs, level =>
      qName (nameE n level) = true ∧ dictOK [] a ∧ ((attrListE a n level).map (·.1)).Nodup ∧ textOK c ∧
      (c ≠ none → cs = []) ∧ (∀ x, c = some x → emlContent x.toList = escapeText x.toList) ∧ LegalEL cs (level + 1)
def LegalEL : List Tree → Nat → Prop
  | [], _ => True
  | c :: cs, level => LegalE c level ∧ LegalEL cs level
end

def indentE (level : Nat) : Str := (List.replicate level "    ".toList).flatten

theorem indentE_ws (level : Nat) : (indentE level).all isWs = true :=
  all_flatten_replicate isWs rfl level

mutual
def xElemE : Tree → Nat → X
  | .mk _ n c _ _ a _ _ cs, level =>
      .elem (nameE n level) (attrListE a n level)
        (match c with
         | some content => [X.text content.toList]
         | none => match cs with
           | [] => []
           | _ => [X.text "\n".toList] ++ xKidsE cs (level + 1) ++ [X.text (indentE level)])
def xKidsE : List Tree → Nat → List X
  | [], _ => []
  | c :: cs, level => [X.text (indentE level), xElemE c level, X.text "\n".toList] ++ xKidsE cs level
end

theorem attrsE_den (a : Dict) (n : String) (level : Nat) (ha : dictOK [] a) :
    AttrsDen (attrItems [] a ++ (if isEmlRoot n level then " ".toList ++ emlBoiler else [])) (attrListE a n level) := by
  unfold attrListE
  have h1 := attrItems_den [] a ha
  simp only [List.nil_append] at h1
  apply AttrsDen.append h1
  split
  · rw [← boiler_items]
    have := attrItems_den [] boilerDict boiler_ok
    simpa using this
  · exact AttrsDen.nil

/-- the last line of the right-hand side: export.py writes the children of a node WITH content after its end tag
    (`LegalE` excludes such nodes) -/
theorem toXmlE_eq (i n : String) (c tl p : Option String) (a ex ns : Dict) (cs : List Tree) (level : Nat) :
    toXmlE (.mk i n c tl p a ex ns cs) level =
      indentE level ++ ("<".toList ++ nameE n level ++ (attrItems [] a ++ (if isEmlRoot n level then " ".toList ++ emlBoiler else [])) ++
        ">".toList ++ (match c, cs with
          | some content, _ => emlContent content.toList
          | none, [] => []
          | none, _ => "\n".toList ++ toXmlEL cs (level + 1) ++ indentE level) ++ "</".toList ++ nameE n level ++ ">".toList) ++
      "\n".toList ++ (match c with | some _ => toXmlEL cs (level + 1) | none => []) := by
  have hroot : (level = 0 ∧ n = "eml") ↔ isEmlRoot n level = true := by simp [isEmlRoot]
  have hattrs : (if isEmlRoot n level = true then attrItems [] a ++ " ".toList ++ emlBoiler else attrItems [] a) =
      attrItems [] a ++ (if isEmlRoot n level = true then " ".toList ++ emlBoiler else []) := by
    rw [apply_ite (attrItems [] a ++ ·), List.append_nil, List.append_assoc]
  unfold toXmlE nameE indentE
  simp only [hroot, hattrs]
  -- what is left is associativity of `++`: the large pieces are made variables first, and the brackets are moved to the
  -- left, where the exporter's text has nearly all of them already
  generalize (if isEmlRoot n level = true then n.toList ++ ":".toList ++ n.toList else n.toList) = nm
  generalize attrItems [] a ++ (if isEmlRoot n level = true then " ".toList ++ emlBoiler else []) = as
  generalize (List.replicate level "    ".toList).flatten = ind
  cases c with
  | some content => simp only [← List.append_assoc]
  | none => cases cs <;> simp only [← List.append_assoc, List.append_nil]

theorem toXmlE_den_both :
    (∀ (t : Tree) (level : Nat), LegalE t level →
      ∃ e, toXmlE t level = indentE level ++ e ++ "\n".toList ∧ Den e (xElemE t level)) ∧
    (∀ (cs : List Tree) (level : Nat), LegalEL cs level → DenL (toXmlEL cs level) (xKidsE cs level)) := by
  refine Tree.induct₂ (fun i n c tl p a ex ns cs ih level h => ?_) (fun _ _ => DenL.nil) (fun c cs ihc ihcs level h => ?_)
  · simp only [LegalE] at h
    obtain ⟨hq, ha, hnd, hc, hboth, hwork, hkids⟩ := h
    have hattr := attrsE_den a n level ha
    rw [toXmlE_eq]
    -- the element's string is the one the grammar rule builds; after it comes nothing (no children after content)
    cases c with
    | some content =>
      obtain rfl : cs = [] := hboth (by simp)
      dsimp only
      rw [hwork content rfl]
      exact ⟨_, List.append_nil _, Den.pair hq hattr hnd (DenL.single (escapeText_den content.toList (hc content rfl)))⟩
    | none =>
      cases cs with
      | nil => exact ⟨_, List.append_nil _, Den.pair hq hattr hnd DenL.nil⟩
      | cons k ks =>
        exact ⟨_, List.append_nil _, Den.pair hq hattr hnd (DenL.block (ih (level + 1) hkids) (CharData.ws (indentE_ws level)))⟩
  · simp only [LegalEL] at h
    obtain ⟨e, he, hd⟩ := ihc level h.1
    have := DenL.child (CharData.ws (indentE_ws level)) hd (CharData.ws (w := "\n".toList) rfl) (ihcs level h.2)
    simpa only [toXmlEL, xKidsE, he, List.append_assoc] using this

theorem toXmlEL_den : ∀ (cs : List Tree) (level : Nat), LegalEL cs level → Nonempty (DenL (toXmlEL cs level) (xKidsE cs level)) :=
  fun cs level h => ⟨toXmlE_den_both.2 cs level h⟩

/-- the EML exporter emits a well-formed document for every tree in the property's quantifier; the element it denotes
    has the tree's names, attributes (plus the boilerplate declarations on an `eml` root), child order and text -/
theorem C07_eml_wellformed (t : Tree) (h : LegalE t 0) : DocDen (toXmlE t 0) (xElemE t 0) := by
  obtain ⟨e, he, hd⟩ := toXmlE_den_both.1 t 0 h
  exact ⟨e, "\n".toList, by rw [he]; simp [indentE], hd, by decide⟩

end Metapype
