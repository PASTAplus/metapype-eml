import MetapypeModel.Lemmas.ExpandValid
import MetapypeModel.Lemmas.NodeLemmas
import MetapypeModel.Props.C01
import MetapypeModel.Props.C05
import MetapypeModel.Gen.Facts
import MetapypeModel.Model.Lex
/-
  C16 — reference expansion substitutes independent copies, atomically.
-/
namespace Metapype

/-- after expansion no `references` node is left below the root, provided the referenced elements hold none themselves -/
theorem C16_no_refs_left (u : Nat → String) (root t' : Tree) (s : Nat)
    (hsrc : ∀ k t, lookupId (idsOf root) k = some t → NoRefsL t.children)
    (h : expandT u root s = some t') : NoRefsL t'.children := by
  cases expandT_eq_some h
  cases root with
  | mk i n c tl p a e ns cs => exact substL_norefs u _ hsrc cs s

/-- a subtree that holds no `references` — in particular every referenced element — is left exactly as it was -/
theorem C16_sources_unchanged (u : Nat → String) (ids : List (String × Tree)) (t : Tree) (s : Nat)
    (h : NoRefsL t.children) : substT u ids t s = (t, s) := by
  cases t with
  | mk i n c tl p a e ns cs =>
    simp only [Tree.children] at h
    simp only [substT, substL_unchanged u ids cs s h]

/-- atomic: a duplicated id or a reference naming no id raises ValueError before anything is changed
    (`none` = the exception, the tree being the unchanged argument) -/
theorem C16_atomic (u : Nat → String) (root : Tree) (s : Nat) :
    expandT u root s = none ↔ (¬ ((idsOf root).map (·.1)).Nodup ∨ ∃ r ∈ refsOf root, dangling (idsOf root) r = true) := by
  simp only [expandT, ite_eq_left_iff, reduceCtorEq, imp_false, Decidable.not_not, Bool.not_eq_true', decide_eq_false_iff_not,
    List.any_eq_true, Decidable.or_iff_not_imp_left]

/-- in the place of a `references` child come copies of the referenced element's children, in order
    (shown on the child names, which is what validation of the parent looks at) -/
theorem C16_subst_in_place (u : Nat → String) (ids : List (String × Tree)) (pre post : List Tree) (s : Nat)
    (i : String) (k : String) (tl p : Option String) (a e ns : Dict) (ks : List Tree) (src : Tree)
    (hpre : NoRefsL pre) (hpost : NoRefsL post) (hl : lookupId ids k = some src) :
    (substL u ids (pre ++ .mk i "references" (some k) tl p a e ns ks :: post) s).1.map Tree.name =
      pre.map Tree.name ++ src.children.map Tree.name ++ post.map Tree.name := by
  rw [substL_names, substNames_append, substNames_cons_ref ids rfl, substNames_no_refs (NoRefsL_names hpre),
    substNames_no_refs (NoRefsL_names hpost), Tree.content, refKids_some hl, List.append_assoc]

/-- the two shapes of `C16_table_shapes`, as a test the kernel can run -/
def refShapeB (sp : Spec) : Bool :=
  match sp with
  | .choice alts _ (some 1) => alts.any (fun a => match a with | .leaf "references" 1 (some 1) => true | _ => false)
  | .seq [.choice alts _ (some 1), .leaf "role" 1 none] => alts.any (fun a => match a with | .leaf "references" 1 (some 1) => true | _ => false)
  | _ => false

theorem refShapeB_sound {sp : Spec} (h : refShapeB sp = true) :
    (∃ alts mn, sp = .choice alts mn (some 1) ∧ Spec.leaf "references" 1 (some 1) ∈ alts) ∨
    (∃ alts mn, sp = .seq [.choice alts mn (some 1), .leaf "role" 1 none] ∧ Spec.leaf "references" 1 (some 1) ∈ alts) := by
  have leaf_mem : ∀ alts : List Spec,
      alts.any (fun a => match a with | .leaf "references" 1 (some 1) => true | _ => false) = true →
      Spec.leaf "references" 1 (some 1) ∈ alts := by
    intro alts h
    obtain ⟨a, ha, hm⟩ := List.any_eq_true.mp h
    split at hm
    · exact ha
    · cases hm
  unfold refShapeB at h
  split at h
  · exact Or.inl ⟨_, _, rfl, leaf_mem _ h⟩
  · exact Or.inr ⟨_, _, rfl, leaf_mem _ h⟩
  · cases h

/-- one sweep over the regenerated rules, for `C16_table_shapes` and `C16_table_ref_rules` together -/
theorem ref_rules_swept : ∀ r ∈ Gen.rules, "references" ∈ r.children.names →
    (refShapeB r.children && !isMixed Gen.tables.mixedRules r) = true := by decide +kernel

/-- table: every rule that permits `references` has it as a direct alternative of an exactly-one choice that is
    either the whole children section or its first item followed only by an unbounded `role` -/
theorem C16_table_shapes : ∀ r ∈ Gen.rules, "references" ∈ r.children.names →
    (∃ alts mn, r.children = .choice alts mn (some 1) ∧ Spec.leaf "references" 1 (some 1) ∈ alts) ∨
    (∃ alts mn, r.children = .seq [.choice alts mn (some 1), .leaf "role" 1 none] ∧ Spec.leaf "references" 1 (some 1) ∈ alts) :=
  fun r hr hin => refShapeB_sound (Bool.and_eq_true_iff.mp (ref_rules_swept r hr hin)).1

section validity
variable (L : Lexer) (T : Tables)

/-- the two shapes that rules permitting `references` have (`C16_table_shapes`), in the class of C01, without mixed content -/
def RefRuleOK (r : Rule) : Prop :=
  wfTop r.children = true ∧ isMixed T.mixedRules r = false ∧
  ((∃ alts mn, r.children = .choice alts mn (some 1) ∧ Spec.leaf "references" 1 (some 1) ∈ alts) ∨
   (∃ alts mn, r.children = .seq [.choice alts mn (some 1), .leaf "role" 1 none] ∧ Spec.leaf "references" 1 (some 1) ∈ alts))

/-- a referenced element: governed by rule `r`, validated (itself and its children), holding no `references` -/
structure SrcOK (R : Tree) (r : Rule) : Prop where
  name_ne : R.name ≠ "metadata"
  rule : T.ruleOf R.name = some (some r)
  node : collectNodeT L T R = []
  kids : OkL L T R.children
  norefs : NoRefsL R.children

theorem node_subst_ok {ids : List (String × Tree)} {n : String} {c : Option String} {a : Dict} {cs : List Tree} {r : Rule}
    (hn : n ≠ "metadata") (hr : T.ruleOf n = some (some r)) (hrr : RefRuleOK T r)
    (hvalid : collectNode L T n c a (cs.map Tree.name) = [])
    (hrefs : ∀ x ∈ cs, x.name = "references" → ∃ k R, x.content = some k ∧ lookupId ids k = some R ∧ SrcOK L T R r) :
    collectNode L T n c a (substNames ids cs) = [] := by
  obtain ⟨hw, hmix, hshape⟩ := hrr
  simp only [collectNode, hr, validateRule_nil_iff, hmix] at hvalid ⊢
  obtain ⟨hc, ha, hk⟩ := hvalid
  refine ⟨?_, ha, ?_⟩
  · -- without mixed content the content checks do not look at the children
    rw [validateContent_nKids' L r _ (cs.map Tree.name).length]
    exact hc
  · rw [validateChildrenRaw_nil_iff hw hn] at hk ⊢
    have hnd : r.children.names.Nodup := by
      simp only [wfTop, Bool.and_eq_true, decide_eq_true_eq] at hw
      exact hw.1
    refine Lang_substNames hnd hshape hk fun x hx hxn => ?_
    -- a referenced element is governed by the same rule, so its own children are a word of the same language
    obtain ⟨k, R, hxc, hlk, hR⟩ := hrefs x hx hxn
    rw [hxc, refKids_some hlk, ← validateChildrenRaw_nil_iff hw hR.name_ne]
    have h := hR.node
    simp only [collectNodeT, collectNode, hR.rule, validateRule_nil_iff, hmix] at h
    exact h.2.2

mutual
/-- the property's hypothesis, at every node: every `references` child names an element that is validated itself, governed by
    the same rule as the referencing element, and free of references; the referencing element is not a `metadata` element (see the
    recorded finding D16) and its rule has one of the two table shapes -/
def RefHyp (ids : List (String × Tree)) : Tree → Prop
  | .mk _ n _ _ _ _ _ _ cs =>
      ("references" ∈ cs.map Tree.name →
          n ≠ "metadata" ∧ ∃ r, T.ruleOf n = some (some r) ∧ RefRuleOK T r ∧
            ∀ x ∈ cs, x.name = "references" → ∃ k R, x.content = some k ∧ lookupId ids k = some R ∧ SrcOK L T R r) ∧
      RefHypL ids cs
def RefHypL (ids : List (String × Tree)) : List Tree → Prop
  | [] => True
  | c :: cs => RefHyp ids c ∧ RefHypL ids cs
end

theorem subst_ok_both (u : Nat → String) (ids : List (String × Tree)) :
    (∀ (t : Tree) (s : Nat), OkT L T t → RefHyp L T ids t → OkT L T (substT u ids t s).1) ∧
    ∀ (cs : List Tree) (s : Nat), OkL L T cs → RefHypL L T ids cs →
      (∀ x ∈ cs, x.name = "references" → ∃ k R, x.content = some k ∧ lookupId ids k = some R ∧ OkL L T R.children) →
      OkL L T (substL u ids cs s).1 := by
  apply Tree.induct₂
  case mk =>
    intro i n c tl p a e ns cs ih s hok hyp
    rw [OkT_mk] at hok
    simp only [RefHyp] at hyp
    rw [substT, OkT_mk, substL_names]
    obtain ⟨hnode, hkids⟩ := hok
    obtain ⟨hrefs, hrec⟩ := hyp
    refine ⟨?_, hkids.imp_right fun hk => ih s hk hrec fun x hx hxn => ?_⟩
    · by_cases href : "references" ∈ cs.map Tree.name
      · obtain ⟨hn, r, hr, hrr, hall⟩ := hrefs href
        exact node_subst_ok L T hn hr hrr hnode hall
      · rw [substNames_no_refs href]
        exact hnode
    · obtain ⟨_, r, _, _, hall⟩ := hrefs (List.mem_map.mpr ⟨x, hx, hxn⟩)
      obtain ⟨k, R, h1, h2, h3⟩ := hall x hx hxn
      exact ⟨k, R, h1, h2, h3.kids⟩
  case nil => intro s _ _ _; simp [substL, OkL]
  case cons =>
    intro x cs ihx ih s hok hyp hsrc
    obtain ⟨i, n, c, tl, p, a, e, ns, ks⟩ := x
    simp only [OkL] at hok
    simp only [RefHypL] at hyp
    have hrest : ∀ s', OkL L T (substL u ids cs s').1 :=
      fun s' => ih s' hok.2 hyp.2 (fun x hx => hsrc x (List.mem_cons_of_mem _ hx))
    by_cases hn : n = "references"
    · subst hn
      obtain ⟨k, R, h1, h2, h3⟩ := hsrc _ List.mem_cons_self rfl
      cases h1
      simp only [substL_ref, refKids_some h2]
      exact OkL_append L T ((freshCopy_ok_both L T u).2 R.children s h3) (hrest _)
    · simp only [substL_other u ids hn, OkL]
      exact ⟨by simpa only [substT] using ihx s hok.1 hyp.1, hrest _⟩

theorem substL_ok (u : Nat → String) (ids : List (String × Tree)) : ∀ (cs : List Tree) (s : Nat),
    OkL L T cs → RefHypL L T ids cs →
    (∀ x ∈ cs, x.name = "references" → ∃ k R, x.content = some k ∧ lookupId ids k = some R ∧ OkL L T R.children) →
    OkL L T (substL u ids cs s).1 :=
  (subst_ok_both L T u ids).2

/-- **a tree that validated before still validates**: if whole-tree validation reports nothing for `root`, the property's
    hypothesis holds at every node (`RefHyp`) and expansion succeeds, then whole-tree validation reports nothing for the result -/
theorem C16_validity (u : Nat → String) (root t' : Tree) (s : Nat)
    (hvalid : collectTree L T root = []) (hyp : RefHyp L T (idsOf root) root) (h : expandT u root s = some t') :
    collectTree L T t' = [] := by
  cases expandT_eq_some h
  rw [collectTree_nil_iff] at hvalid ⊢
  exact (subst_ok_both L T u _).1 root s hvalid hyp

end validity

/-- every rule of the regenerated table that permits `references` meets the rule-side hypothesis of `C16_validity` -/
theorem C16_table_ref_rules : ∀ r ∈ Gen.rules, "references" ∈ r.children.names → RefRuleOK Gen.tables r := by
  intro r hr hin
  have hmix := (Bool.and_eq_true_iff.mp (ref_rules_swept r hr hin)).2
  exact ⟨C01_table_wf r hr, by simpa using hmix, C16_table_shapes r hr hin⟩

/-- … and no element maps to a rule permitting `references` under the name `metadata` (the case the finding D16 is about lies
    outside: `metadata` content is never matched against a rule) -/
theorem C16_table_metadata_rule :
    (match Gen.tables.ruleOf "metadata" with
     | some (some r) => !(r.children.names.contains "references")
     | _ => true) = true := by
  have h := metadata_rule_facts
  generalize Gen.tables.ruleOf "metadata" = o at h
  match o with
  | some (some r) => simpa using (h r rfl).2
  | some none | none => rfl


def mkT (n : String) (c : Option String) (a : Dict) (cs : List Tree) : Tree := .mk "" n c none none a [] [] cs

def srcT : Tree := mkT "creator" none [("id", "p0")] [mkT "organizationName" (some "o") [] []]
def dsT : Tree := mkT "dataset" none [] [mkT "title" (some "t") [] [], srcT, mkT "contact" none [] [mkT "references" (some "p0") [] []]]

/-- non-vacuity: a dataset whose contact references its creator validates and satisfies the hypothesis of `C16_validity` -/
example : collectTree Lex.lexer Gen.tables dsT = [] ∧ RefHyp Lex.lexer Gen.tables (idsOf dsT) dsT := by
  have hvalid : collectTree Lex.lexer Gen.tables dsT = [] := by decide +kernel
  refine ⟨hvalid, ?_⟩
  -- `contact` and `creator` map to one rule, and it permits `references` (one evaluation of the three lookups)
  have hshared : (match Gen.nodeMappings.find? (·.1 == "contact"), Gen.nodeMappings.find? (·.1 == "creator") with
      | some (_, rn), some (_, rn') =>
          rn == rn' && (match Gen.rules.find? (·.name == rn) with
                        | some r => r.children.names.contains "references"
                        | none => false)
      | _, _ => false) = true := by decide +kernel
  obtain ⟨r, hr, hcr, hin⟩ : ∃ r, Gen.tables.ruleOf "contact" = some (some r) ∧ Gen.tables.ruleOf "creator" = some (some r) ∧
      "references" ∈ r.children.names := by
    simp only [Tables.ruleOf, Gen.tables]
    split at hshared
    · next e1 rn e2 rn' h1 h2 =>
      simp only [Bool.and_eq_true, beq_iff_eq] at hshared
      obtain ⟨rfl, hpermits⟩ := hshared
      rw [h1, h2]
      split at hpermits
      · next r hfind => exact ⟨r, by simp only [hfind], by simp only [hfind], by simpa using hpermits⟩
      · cases hpermits
    · cases hshared
  -- every node of `dsT` validates on its own, the referenced `creator` and its child among them
  have hok := (collectTree_nil_iff _ _ _).mp hvalid
  simp only [dsT, srcT, mkT, OkT, OkL] at hok
  obtain ⟨-, ⟨hcreator, hcreatorKids⟩, -⟩ := hok.2.resolve_left (by simp)
  have horg := (hcreatorKids.resolve_left (by simp)).1
  have vac : ∀ (l : List String) (P : Prop), "references" ∉ l → ("references" ∈ l → P) := fun _ _ h h' => absurd h' h
  simp only [dsT, srcT, mkT, RefHyp, RefHypL, List.map_cons, List.map_nil, Tree.name]
  -- `dataset` has no `references` child; then its children `title`, `creator`, `contact`
  refine ⟨vac _ _ (by simp), ?title, ?creator, ?contact, trivial⟩
  case title => exact ⟨vac _ _ (by simp), trivial⟩
  case creator =>
    -- `creator`, then its child `organizationName`
    exact ⟨vac _ _ (by simp), ⟨vac _ _ (by simp), trivial⟩, trivial⟩
  case contact =>
    -- `contact` is the one node with a `references` child (`?_`, proved below); that child has no children
    refine ⟨?_, ⟨vac _ _ (by simp), trivial⟩, trivial⟩
    intro _
    refine ⟨by simp, r, hr, C16_table_ref_rules r (mem_of_ruleOf Gen.tables "contact" r hr) hin, ?_⟩
    intro x hx hxn
    simp only [List.mem_singleton] at hx
    subst hx
    refine ⟨"p0", _, rfl, rfl, ?_⟩
    exact ⟨by simp [Tree.name], hcr, hcreator, ⟨horg, trivial⟩, by simp [NoRefsL, Tree.children]⟩
def d16 : Tree :=
  mkT "eml" none [("packageId", "p"), ("system", "s")]
    [ mkT "access" none [("authSystem", "a")] [mkT "allow" none [] [mkT "principal" (some "p") [] [], mkT "permission" (some "read") [] []]],
      mkT "dataset" none [] [mkT "title" (some "t") [] [], mkT "creator" none [] [mkT "organizationName" (some "o") [] []],
                              mkT "contact" none [] [mkT "organizationName" (some "o") [] []]],
      mkT "additionalMetadata" none [] [mkT "metadata" none [] [mkT "metadata" none [("id", "m1")] [mkT "x" none [] [], mkT "y" none [] []]]],
      mkT "additionalMetadata" none [] [mkT "metadata" none [] [mkT "references" (some "m1") [] []]] ]

/-- finding D16, on the model: a tree that validates and does not validate any more after expansion.  The referencing and the
    referenced element are both `metadata` elements (the same rule) and the referenced one lies below a `metadata` element,
    so it is never validated; the tree is outside `RefHyp` on two counts (the referencing element is named `metadata`, the
    referenced one is not validated). -/
theorem C16_finding_D16_witness : (collectTree Lex.lexer Gen.tables d16).isEmpty = true ∧
    (match expandT (fun k => toString k) d16 0 with
     | some t' => !(collectTree Lex.lexer Gen.tables t').isEmpty
     | none => false) = true := by decide +kernel

/-- exact bookkeeping of nodes through expansion: the nodes of the result together with the discarded `references` subtrees are,
    as multisets of ids, the nodes of the original together with the copies drawn from the supply — nothing else appears,
    nothing else disappears -/
theorem C16_ids_exact (u : Nat → String) (root t' : Tree) (s : Nat) (h : expandT u root s = some t') :
    List.Perm (t'.ids ++ refIdsT root) (root.ids ++ drawn u s (substT u (idsOf root) root s).2) := by
  cases expandT_eq_some h
  refine List.perm_iff_count.mpr fun x => ?_
  rw [List.count_append, List.count_append]
  exact substT_ids_exact u (idsOf root) x root s

/-- **the substituted copies are new nodes**: when the node ids of the tree are pairwise distinct and the id supply is fresh for
    it (injective, and nothing it hands out from `s` on is an id of the tree — `uuid1()`), the node ids of the expanded tree are
    again pairwise distinct, and each of them is an id of the original tree or one drawn from the supply by this call: no copy
    shares its id with the element it was copied from, with another copy, or with any other node -/
theorem C16_fresh_ids (u : Nat → String) (hu : Function.Injective u) (root t' : Tree) (s : Nat)
    (hnd : root.ids.Nodup) (hfresh : ∀ k, s ≤ k → u k ∉ root.ids) (h : expandT u root s = some t') :
    t'.ids.Nodup ∧ ∀ x ∈ t'.ids, x ∈ root.ids ∨ ∃ k, s ≤ k ∧ x = u k := by
  have hperm := C16_ids_exact u root t' s h
  have hnd' : (root.ids ++ drawn u s (substT u (idsOf root) root s).2).Nodup :=
    List.nodup_append.mpr ⟨hnd, drawn_nodup u hu s _, fun a ha b hb hab => by
      obtain ⟨k, hk, rfl⟩ := mem_drawn hb
      exact hfresh k hk (hab ▸ ha)⟩
  refine ⟨(List.nodup_append.mp (hperm.nodup_iff.mpr hnd')).1, fun x hx => ?_⟩
  rcases List.mem_append.mp (hperm.mem_iff.mp (List.mem_append_left _ hx)) with hr | hd
  · exact Or.inl hr
  · exact Or.inr (mem_drawn hd)

end Metapype
