import MetapypeModel.Model.Rule
import MetapypeModel.Gen.Rules
import MetapypeModel.Lemmas.DictLemmas
import MetapypeModel.Lemmas.NodeLemmas
/-
  C03 — attribute validation enforces exactly required / allowed / enumerated.
  All statements are for every attribute spec and every attribute assignment
  (unbounded); the table theorem at the end is `decide` over the regenerated
  rule table.
-/
namespace Metapype

/-- the three kinds of constraint a rule's attribute section imposes, stated declaratively -/
def AttrViolated (spec : List AttrSpec) (attrs : Dict) : ErrKind × String → Prop
  | (.attrRequired, a) => ∃ s ∈ spec, s.name = a ∧ s.required = true ∧ attrs.has a = false
  | (.attrUnrecognized, a) => (∃ v, (a, v) ∈ attrs) ∧ attrLookup spec a = none
  | (.attrEnum, a) => ∃ v s, (a, v) ∈ attrs ∧ attrLookup spec a = some s ∧ s.values ≠ [] ∧ v ∉ s.values
  | _ => False

theorem C03_events_are_detail (spec : List AttrSpec) (attrs : Dict) :
    validateAttrs spec attrs = (validateAttrsDetail spec attrs).map (fun d => Ev.err d.1) := by
  unfold validateAttrs validateAttrsDetail
  simp only [List.map_append, List.map_map, List.map_filterMap]
  congr 1
  congr 1
  funext kv
  cases attrLookup spec kv.1 with
  | none => rfl
  | some a => simp only; split <;> rfl

/-- collecting mode reports exactly the violated constraints -/
theorem C03_detail_iff (spec : List AttrSpec) (attrs : Dict) (d : ErrKind × String) :
    d ∈ validateAttrsDetail spec attrs ↔ AttrViolated spec attrs d := by
  obtain ⟨k, a⟩ := d
  simp only [validateAttrsDetail_eq, List.mem_append, List.mem_map, List.mem_filter, List.mem_filterMap,
    attrCheck_eq_some_iff, Bool.and_eq_true, Bool.not_eq_eq_eq_not, Bool.not_true, Prod.mk.injEq]
  constructor
  · rintro (⟨s, ⟨hs, hr, hh⟩, rfl, rfl⟩ | ⟨kv, hkv, rfl, (⟨rfl, hl⟩ | ⟨rfl, s, hl, hne, hnm⟩)⟩)
    · exact ⟨s, hs, rfl, hr, hh⟩
    · exact ⟨⟨kv.2, hkv⟩, hl⟩
    · exact ⟨kv.2, s, hkv, hl, hne, hnm⟩
  · intro h
    match k, h with
    | .attrRequired, ⟨s, hs, hn, hr, hh⟩ => exact Or.inl ⟨s, ⟨hs, hr, hn ▸ hh⟩, rfl, hn⟩
    | .attrUnrecognized, ⟨⟨v, hv⟩, hl⟩ => exact Or.inr ⟨(a, v), hv, rfl, Or.inl ⟨rfl, hl⟩⟩
    | .attrEnum, ⟨v, s, hv, hl, hne, hnm⟩ => exact Or.inr ⟨(a, v), hv, rfl, Or.inr ⟨rfl, s, hl, hne, hnm⟩⟩

/-- acceptance: no event at all ⇔ no constraint is violated -/
theorem C03_accept_iff (spec : List AttrSpec) (attrs : Dict) :
    validateAttrs spec attrs = [] ↔ ∀ d, ¬ AttrViolated spec attrs d := by
  rw [C03_events_are_detail, List.map_eq_nil_iff, List.eq_nil_iff_forall_not_mem]
  exact forall_congr' fun d => not_congr (C03_detail_iff spec attrs d)

/-- fail-fast mode raises (for the first reported violation) exactly when collecting mode reports something -/
theorem C03_failfast_first (spec : List AttrSpec) (attrs : Dict) :
    (validateAttrs spec attrs).head? = none ↔ validateAttrs spec attrs = [] :=
  List.head?_eq_none_iff

/-- one error per violated constraint: with unique names on both sides no (kind, attribute) is reported twice -/
theorem C03_one_error_per_violation (spec : List AttrSpec) (attrs : Dict)
    (hs : (spec.map (·.name)).Nodup) (ha : attrs.keys.Nodup) :
    (validateAttrsDetail spec attrs).Nodup := by
  rw [validateAttrsDetail_eq, List.nodup_append]
  refine ⟨?_, ?_, ?_⟩
  · apply nodup_of_map Prod.snd
    rw [List.map_map]
    exact List.Nodup.sublist (List.Sublist.map _ List.filter_sublist) hs
  · -- two attributes of the node reported as the same pair have the same name
    refine filterMap_nodup_of_inj _ _ (nodup_of_map _ ha) fun x hx y hy b h1 h2 => ?_
    have e1 := ((attrCheck_eq_some_iff spec x b.1 b.2).mp h1).1
    have e2 := ((attrCheck_eq_some_iff spec y b.1 b.2).mp h2).1
    exact eq_of_mem_of_nodup_map Prod.fst (l := attrs) ha hx hy (e1 ▸ e2)
  · -- the first loop reports `attrRequired` only, the second never
    intro a ha1 b hb1 hab
    obtain ⟨s, _, rfl⟩ := List.mem_map.mp ha1
    obtain ⟨kv, _, hkv⟩ := List.mem_filterMap.mp hb1
    subst hab
    rcases ((attrCheck_eq_some_iff spec kv _ _).mp hkv).2 with ⟨h, _⟩ | ⟨h, _⟩ <;> cases h

/-- introspection: `is_required_attribute` reports the flag validation enforces -/
theorem C03_introspection_required (spec : List AttrSpec) (a : String)
    (hs : (spec.map (·.name)).Nodup) (b : Bool) (h : isRequiredAttribute spec a = some b) :
    b = true ↔ ∀ attrs : Dict, attrs.has a = false → (ErrKind.attrRequired, a) ∈ validateAttrsDetail spec attrs := by
  obtain ⟨s, hfind, rfl⟩ := Option.map_eq_some_iff.mp h
  have hmem := List.mem_of_find?_eq_some hfind
  have hname : s.name = a := by simpa using List.find?_some hfind
  constructor
  · intro hr attrs hh
    rw [C03_detail_iff]
    exact ⟨s, hmem, hname, hr, hh⟩
  · intro hall
    obtain ⟨s', hs', hn', hr', _⟩ := (C03_detail_iff spec [] (.attrRequired, a)).mp (hall [] rfl)
    obtain rfl : s' = s := eq_of_mem_of_nodup_map (·.name) hs hs' hmem (hn'.trans hname.symm)
    exact hr'

/-- introspection: `allowed_attribute_values` reports the list validation enforces -/
theorem C03_introspection_values (spec : List AttrSpec) (a : String) (vs : List String)
    (h : allowedAttributeValues spec a = some vs) (attrs : Dict) (v : String) (hv : (a, v) ∈ attrs)
    (hk : attrs.keys.Nodup) :
    (ErrKind.attrEnum, a) ∈ validateAttrsDetail spec attrs ↔ (vs ≠ [] ∧ v ∉ vs) := by
  obtain ⟨s, hl, rfl⟩ := Option.map_eq_some_iff.mp h
  rw [C03_detail_iff]
  constructor
  · rintro ⟨v', s', hv', hl', hne, hnm⟩
    cases hl.symm.trans hl'
    cases eq_of_mem_of_nodup_map Prod.fst (l := attrs) hk hv hv' rfl
    exact ⟨hne, hnm⟩
  · rintro ⟨hne, hnm⟩
    exact ⟨v, s, hv, hl, hne, hnm⟩

/-- non-vacuity: a concrete spec and assignment with two simultaneous violations -/
example : validateAttrsDetail
    [{ name := "scope", required := false, values := ["document", "system"] }, { name := "authSystem", required := true, values := [] }]
    [("scope", "doc")] = [(.attrRequired, "authSystem"), (.attrEnum, "scope")] := by decide

/-- table: in every rule of the regenerated table attribute names are unique (the hypothesis above) -/
theorem C03_table_names_unique : ∀ r ∈ Gen.rules, (r.attrs.map (·.name)).Nodup := by decide +kernel

end Metapype
