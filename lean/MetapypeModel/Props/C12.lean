import MetapypeModel.Lemmas.CopyLemmas
import MetapypeModel.Lemmas.ListLemmas
/-
  C12 — copy is deep, equal and independent.  For every object tree and every supply of fresh
  identities (induction on trees).
-/
namespace Metapype

theorem copyL_value (u : Nat → String) : ∀ (cs : List OTree) (s : Supply), OTree.valueL (copyL u cs s).1 = OTree.valueL cs :=
  (copy_value_both u).2

/-- equal: the copy agrees with the original in every field and in child order (ids aside) -/
theorem C12_equal (u : Nat → String) (t : OTree) (s : Supply) : (copyO u t s).1.value = t.value := (copy_value_both u).1 t s

theorem copyL_tags (u : Nat → String) : ∀ (cs : List OTree) (s : Supply),
    s.tag ≤ (copyL u cs s).2.tag ∧ s.uid ≤ (copyL u cs s).2.uid ∧
    (∀ x ∈ OTree.tagsL (copyL u cs s).1, s.tag ≤ x ∧ x < (copyL u cs s).2.tag) ∧ (OTree.tagsL (copyL u cs s).1).Nodup := by
  intro cs s
  obtain ⟨k, j, h1, h2, -⟩ := (copy_draws_both u).2 cs s
  rw [h1, h2]
  exact ⟨Nat.le_add_right _ _, Nat.le_add_right _ _, fun x hx => List.mem_range'_1.mp hx, List.nodup_range'⟩

/-- fresh objects: every object the copy is made of (nodes, dicts, child lists) was allocated by the call,
    and no two of them coincide -/
theorem C12_fresh_objects (u : Nat → String) (t : OTree) (s : Supply) :
    (∀ x ∈ (copyO u t s).1.tags, s.tag ≤ x) ∧ (copyO u t s).1.tags.Nodup := by
  obtain ⟨k, j, -, h2, -⟩ := (copy_draws_both u).1 t s
  rw [h2]
  exact ⟨fun x hx => (List.mem_range'_1.mp hx).1, List.nodup_range'⟩

/-- copy and original share no object: if the supply is above everything the original is made of -/
theorem C12_separate (u : Nat → String) (t : OTree) (s : Supply) (hs : ∀ x ∈ t.tags, x < s.tag) :
    ∀ x, x ∈ (copyO u t s).1.tags → x ∉ t.tags :=
  fun x hx hx' => Nat.not_le_of_gt (hs x hx') ((C12_fresh_objects u t s).1 x hx)

theorem copyL_ids (u : Nat → String) : ∀ (cs : List OTree) (s : Supply),
    OTree.idsL (copyL u cs s).1 = (List.range' s.uid ((copyL u cs s).2.uid - s.uid)).map u ∧ s.uid ≤ (copyL u cs s).2.uid := by
  intro cs s
  obtain ⟨k, j, h1, -, h3⟩ := (copy_draws_both u).2 cs s
  rw [h1, h3, Nat.add_sub_cancel_left]
  exact ⟨rfl, Nat.le_add_right _ _⟩

/-- fresh unique ids: the copy's nodes carry consecutive fresh uuids, pairwise distinct when uuids never repeat,
    and distinct from every id below the supply -/
theorem C12_fresh_ids (u : Nat → String) (hu : Function.Injective u) (t : OTree) (s : Supply) :
    (copyO u t s).1.ids.Nodup ∧ ∀ i ∈ (copyO u t s).1.ids, ∃ k, s.uid ≤ k ∧ i = u k := by
  obtain ⟨k, j, -, -, h3⟩ := (copy_draws_both u).1 t s
  rw [h3]
  exact ⟨nodup_map_range' u hu _ _, fun _ => mem_map_range'⟩

theorem applyL_untouched (ed : Edit) : ∀ (cs : List OTree), ed.target ∉ OTree.tagsL cs → OTree.applyL ed cs = cs :=
  (applyEdit_untouched_both ed).2

/-- independent: any in-place edit of a container of the copy is invisible in the original, and vice versa -/
theorem C12_independent (u : Nat → String) (t : OTree) (s : Supply) (hs : ∀ x ∈ t.tags, x < s.tag) (ed : Edit) :
    (ed.target ∈ (copyO u t s).1.tags → t.apply ed = t) ∧
    (ed.target ∈ t.tags → (copyO u t s).1.apply ed = (copyO u t s).1) :=
  ⟨fun h => (applyEdit_untouched_both ed).1 t (C12_separate u t s hs _ h),
   fun h => (applyEdit_untouched_both ed).1 _ (fun h' => C12_separate u t s hs _ h' h)⟩

/-- non-vacuity: a two-node tree whose nodes even share one nsmap dict object (tag 3) -/
example : let t : OTree := .mk "a" "p" none none none 0 1 2 3 4 [("k", "v")] [] [("x", "u")] [.mk "b" "c" (some "t") none none 5 6 7 3 8 [] [] [("x", "u")] []]
          (∀ x ∈ t.tags, x < 9) ∧ ((copyO (fun k => "uid" ++ toString k) t ⟨9, 0⟩).1.tags = [9, 10, 11, 12, 13, 14, 15, 16, 17, 18]) := by
  decide

theorem copyP_obj (t : PTree) (s : Nat) : (copyP t s).1.obj = s := by
  cases t
  rfl

theorem copyPL_parents : ∀ (ks : List PTree) (s np : Nat), ParentsOKL np (copyPL ks s np).1 :=
  copyP_parentsOK_both.2

/-- all parent links below the copy's root point inside the copy: every listed child names the node that lists it -
    for EVERY original, whatever its own parent links were (missing, stale, pointing into another tree) -/
theorem C12_parents (t : PTree) (s : Nat) : ParentsOK (copyP t s).1 := copyP_parentsOK_both.1 t s

/-- the root of the copy keeps the link of the node `copy()` was called on (the shallow copy); the property leaves it alone -/
theorem C12_root_parent_kept (t : PTree) (s : Nat) : (copyP t s).1.parent = t.parent := by
  cases t
  rfl

end Metapype
