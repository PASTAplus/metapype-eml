import MetapypeModel.Lemmas.XNormLemmas
import MetapypeModel.Gen.Facts
/-
  C20 — whitespace normalisation is idempotent and structure-preserving.
  Text part: for every string (list of Unicode scalar values); the inductions on the character list are those of
  Lemmas/Split.lean, and the results here follow from `normWords_spec` and `normWords_joinSp`: a join of kept words is
  read back as these words.
  XML part: for every XML node tree, about the XSLT 1.0 meaning of the embedded stylesheet (Model/XNorm.lean; the
  protected-element list is regenerated from the stylesheet text, `Gen.xsltProtected`).  libxslt itself, the
  `indent="yes"` serialisation and the re-parse are not modelled; the correspondence check compares the model with
  libxslt's result tree for the stylesheet extracted from the source, and the oracle judges the function's output.
-/
namespace Metapype

theorem pyStrip_ends (s : List Char) :
    (∀ c, (pyStrip s).head? = some c → pyIsSpace c = false) ∧ (∀ c, (pyStrip s).getLast? = some c → pyIsSpace c = false) := by
  rw [pyStrip_eq]
  exact trim_ends s

/-- what `normalizeText` keeps: a piece between spaces, trimmed, if anything is left of it -/
structure NormWord (w : List Char) : Prop where
  ne : w ≠ []
  nosp : ∀ c ∈ w, (c == ' ') = false
  nonb : nbsp ∉ w
  strip : pyStrip w = w

theorem normWords_spec (s : List Char) : ∀ w ∈ normWords s, NormWord w := by
  intro w hw
  simp only [normWords, List.mem_filter, List.mem_map, Bool.not_eq_eq_eq_not, Bool.not_true, List.isEmpty_eq_false_iff] at hw
  obtain ⟨⟨q, hq, rfl⟩, hne⟩ := hw
  rw [splitSp_eq] at hq
  -- a character of the trimmed piece is a character of the piece: of the replaced text, and not a space
  have hsub : ∀ c ∈ pyStrip q, c ∈ replNbsp s ∧ (c == ' ') = false := fun c hc =>
    mem_of_mem_splitBy hq ((pyStrip_eq q ▸ trim_sublist q).subset hc)
  exact ⟨hne, fun c hc => (hsub c hc).2, fun h => replNbsp_no s (hsub _ h).1, pyStrip_idem q⟩

theorem normWords_joinSp (W : List (List Char)) (h : ∀ w ∈ W, NormWord w) : normWords (joinSp W) = W := by
  cases W with
  | nil => rfl
  | cons w W =>
    have hnb : nbsp ∉ joinSp (w :: W) := fun hm =>
      (joinSp_mem nbsp _ hm).elim (by decide) fun ⟨x, hx, hc⟩ => (h x hx).nonb hc
    rw [normWords, replNbsp_fix _ hnb, splitSp_eq, splitBy_joinSp rfl _ (by simp) (fun x hx => (h x hx).nosp),
      List.map_congr_left (g := id) (fun x hx => (h x hx).strip), List.map_id, List.filter_eq_self]
    exact fun x hx => by simpa using (h x hx).ne

/-- normalising twice changes nothing more -/
theorem C20_idem (s : List Char) : normalizeText (normalizeText s) = normalizeText s := by
  rw [normalizeText, normalizeText, normWords_joinSp _ (normWords_spec s)]

/-- the result contains no non-breaking space -/
theorem C20_no_nbsp (s : List Char) : nbsp ∉ normalizeText s := by
  intro h
  rcases joinSp_mem nbsp _ h with h | ⟨w, hw, hc⟩
  · exact absurd h (by decide)
  · exact (normWords_spec s w hw).nonb hc

/-- the result has no leading and no trailing white space (in particular no leading or trailing space) -/
theorem C20_no_edge_space (s : List Char) :
    (∀ c, (normalizeText s).head? = some c → pyIsSpace c = false) ∧
    (∀ c, (normalizeText s).getLast? = some c → pyIsSpace c = false) := by
  unfold normalizeText
  have hne : ∀ w ∈ normWords s, w ≠ [] := fun w hw => (normWords_spec s w hw).ne
  -- a kept word is its own `strip()`, so it starts and ends with a non-space character
  have hends := fun w (hw : w ∈ normWords s) => (normWords_spec s w hw).strip ▸ pyStrip_ends w
  constructor
  · intro c hc
    obtain ⟨w, hw, hwc⟩ := joinSp_head _ hne c hc
    exact (hends w (List.mem_of_mem_head? hw)).1 c hwc
  · intro c hc
    obtain ⟨w, hw, hwc⟩ := joinSp_last _ hne c hc
    exact (hends w (List.mem_of_getLast? hw)).2 c hwc

/-- the pieces of the normalised text between single spaces are exactly the kept words: the non-blank pieces of the input
    between spaces / no-break spaces, trimmed (`normWords_spec`); a piece of white space only is not among them -/
theorem C20_split_is_words (s : List Char) (h : normWords s ≠ []) : splitSp (normalizeText s) = normWords s := by
  rw [normalizeText, splitSp_eq, splitBy_joinSp rfl _ h (fun w hw => (normWords_spec s w hw).nosp)]

/-- no run of spaces: two adjacent spaces never occur in the result -/
theorem C20_no_space_run (s : List Char) (pre post : List Char) : normalizeText s ≠ pre ++ ' ' :: ' ' :: post := by
  intro h
  have hne : normWords s ≠ [] := by
    intro h0
    rw [normalizeText, h0] at h
    cases pre <;> cases h
  -- two adjacent spaces would make an empty piece, and no kept word is empty
  have := C20_split_is_words s hne
  rw [h, splitSp_eq, splitBy_append rfl, splitBy_cons_sep rfl] at this
  exact (normWords_spec s [] (this ▸ by simp)).ne rfl

/-- normalisation keeps the words and their order: the maximal runs of non-white-space characters (Python's
    `str.split()`) of the result are those of the input, in the same order -/
theorem C20_words (s : List Char) : wsWords (normalizeText s) = wsWords s := wsWords_normalizeText s

/-- … and nothing but white space is lost or added: the non-white-space characters are the same, in order -/
theorem C20_nonspace_chars (s : List Char) :
    (normalizeText s).filter (fun c => !pyIsSpace c) = s.filter (fun c => !pyIsSpace c) := by
  rw [← flatten_wordsBy, ← flatten_wordsBy, ← wsWords_eq, ← wsWords_eq, C20_words]

/-- `wsWords` is the intended notion (a kernel-evaluated instance) -/
example : wsWords "  alpha\tbeta \u00a0 gamma\n".toList = ["alpha".toList, "beta".toList, "gamma".toList] := by
  repeat rw [String.toList_ofList]
  decide +kernel

/-- kernel-evaluated instances (tests, not the unbounded claim) -/
example : normalizeText "  a  b \t c\n ".toList = "a b c".toList := by
  repeat rw [String.toList_ofList]
  decide +kernel

/-- the same elements, attribute names and order -/
theorem C20_xml_structure (prot : List String) (doc : XD) : skel (xmlNormalize prot doc) = skel doc := by
  unfold xmlNormalize; rw [skel_normX, skel_replX]

/-- every attribute value is space-normalised (after the non-breaking-space replacement), wherever it sits -/
theorem C20_xml_attr_values (prot : List String) (ip : Bool) (n : String) (a : List (String × List Char)) (ks : List XD) :
    ∃ ks', normX prot ip (replX (.elem n a ks)) = .elem n (a.map (fun kv => (kv.1, normSpace (replNbsp kv.2)))) ks' := by
  refine ⟨normXL prot (ip || prot.contains n) (replXL ks), ?_⟩
  simp only [replX, normX, List.map_map]; rfl

/-- text outside protected elements is space-normalised; a text that normalises to nothing disappears -/
theorem C20_xml_text_unprotected (prot : List String) (s : List Char) (ks : List XD) :
    normXL prot false (.text s :: ks) =
      if normSpace s = [] then normXL prot false ks else .text (normSpace s) :: normXL prot false ks := by
  simp [normXL]

/-- below a protected element every text node is preserved exactly (only attribute values are normalised) -/
theorem C20_xml_protected (prot : List String) (t : XD) : normX prot true t = attrsOnly t := normX_protected prot t

/-- an element of the regenerated protected list protects its whole content -/
theorem C20_xml_protected_elem (n : String) (hn : n ∈ Gen.xsltProtected) (a : List (String × List Char)) (ks : List XD) (ip : Bool) :
    normX Gen.xsltProtected ip (.elem n a ks) = .elem n (a.map (fun kv => (kv.1, normSpace kv.2))) (attrsOnlyL ks) := by
  have : Gen.xsltProtected.contains n = true := by simpa using hn
  simp only [normX, this, Bool.or_true]
  rw [normXL_protected]

/-- `normalize-space` is idempotent and keeps the words -/
theorem C20_normSpace_idem (s : List Char) : normSpace (normSpace s) = normSpace s := normSpace_idem s
theorem C20_normSpace_words (s : List Char) : xW [] (normSpace s) = xW [] s := xW_normSpace s

/-- normalising twice changes nothing more -/
theorem C20_xml_idem (prot : List String) (doc : XD) : xmlNormalize prot (xmlNormalize prot doc) = xmlNormalize prot doc := by
  unfold xmlNormalize
  rw [replX_fix _ (NoNb_normX prot false _ (NoNb_replX doc)), normX_idem]

/-- the result contains no non-breaking space -/
theorem C20_xml_no_nbsp (prot : List String) (doc : XD) : NoNb (xmlNormalize prot doc) :=
  NoNb_normX prot false _ (NoNb_replX doc)

/-- a kernel-evaluated instance: `para` protects, `title` does not -/
example : xmlNormalize Gen.xsltProtected
    (.elem "d" [("k", "  a   b ".toList)] [.text " \n ".toList, .elem "title" [] [.text "  x \u00a0 y ".toList], .elem "para" [] [.text "  x   y ".toList]]) =
    .elem "d" [("k", "a b".toList)] [.elem "title" [] [.text "x y".toList], .elem "para" [] [.text "  x   y ".toList]] := by
  repeat rw [String.toList_ofList]
  rfl

end Metapype
