import MetapypeModel.Lemmas.PruneAccount
/-
  C15 — prune removes exactly the offending subtrees and nothing else.
  For every lexer, every table, every tree, both modes; induction along `prune` (`prune_induct`).
-/
namespace Metapype

mutual
/-- post-condition: outside metadata content every node is known, lists only children its rule allows,
    and (in strict mode) every non-root node passes single-node validation -/
def Pruned (L : Lexer) (T : Tables) (strict : Bool) : Tree → Prop
  | .mk _ n _ _ _ _ _ _ cs => n = "metadata" ∨ ((T.ruleOf n).isSome = true ∧ PrunedKids L T strict n cs)
def PrunedKids (L : Lexer) (T : Tables) (strict : Bool) (parentName : String) : List Tree → Prop
  | [] => True
  | c :: cs => childAllowed T parentName c.name = true ∧ Pruned L T strict c ∧
               (strict = true → collectNodeT L T c = []) ∧ PrunedKids L T strict parentName cs
end

mutual
/-- `t'` is `t` with some subtrees deleted: kept nodes are untouched and keep their order -/
def SubT : Tree → Tree → Prop
  | .mk i n c tl p a e ns cs', .mk j m d tl' q b f ns' cs =>
      i = j ∧ n = m ∧ c = d ∧ tl = tl' ∧ p = q ∧ a = b ∧ e = f ∧ ns = ns' ∧ SubL cs' cs
def SubL : List Tree → List Tree → Prop
  | [], _ => True
  | _ :: _, [] => False
  | c' :: cs', c :: cs => (SubT c' c ∧ SubL cs' cs) ∨ SubL (c' :: cs') cs
end

theorem SubL_refl (cs : List Tree) : SubL cs cs := by
  induction cs using Tree.inductL with
  | nil => simp [SubL]
  | cons i n c tl p a e ns ks cs ihk ihc =>
    simp only [SubL, SubT, true_and]
    exact Or.inl ⟨ihk, ihc⟩

theorem SubT_refl : ∀ (t : Tree), SubT t t := by
  intro t
  cases t
  simp only [SubT, true_and]
  exact SubL_refl _

theorem SubL_skip {cs' cs : List Tree} {c : Tree} (h : SubL cs' cs) : SubL cs' (c :: cs) := by
  cases cs' with
  | nil => trivial
  | cons c' cs' => exact Or.inr h

theorem SubT.name_eq {t' t : Tree} (h : SubT t' t) : t'.name = t.name := by
  cases t'
  cases t
  exact h.2.1

theorem pruneT_post_both (L : Lexer) (T : Tables) (strict : Bool) :
    (∀ t t', (pruneT L T strict t).1 = some t' → Pruned L T strict t' ∧ SubT t' t) ∧
    ∀ pn cs, PrunedKids L T strict pn (pruneKids L T strict pn cs).1 ∧ SubL (pruneKids L T strict pn cs).1 cs := by
  apply prune_induct L T strict
  case metadata =>
    intro i c tl p a e ns cs t' h
    simp only [pruneT, if_true, Option.some.injEq] at h
    subst h
    exact ⟨by simp [Pruned], SubT_refl _⟩
  case unknown =>
    intro i n c tl p a e ns cs hm hk t' h
    simp [pruneT, hm, hk] at h
  case known =>
    intro i n c tl p a e ns cs hm hk ih t' h
    simp only [pruneT, if_neg hm, hk, Bool.false_eq_true, if_false, Option.some.injEq] at h
    subst h
    simp only [Pruned, SubT, true_and]
    exact ⟨Or.inr ⟨Option.isNone_eq_false_iff.mp hk, ih.1⟩, ih.2⟩
  case nil => intro pn; simp [pruneKids, PrunedKids, SubL]
  case notAllowed =>
    intro pn c cs ha ih
    simp only [pruneKids, ha, Bool.not_false, if_true]
    exact ⟨ih.1, SubL_skip ih.2⟩
  case discarded =>
    intro pn c cs ha hc _ ih
    simp only [pruneKids, ha, hc, Bool.not_true, Bool.false_eq_true, if_false]
    exact ⟨ih.1, SubL_skip ih.2⟩
  case invalid =>
    intro pn c c' cs ha hc hs _ ih
    simp only [pruneKids, ha, hc, hs, Bool.not_true, Bool.false_eq_true, if_false, if_true]
    exact ⟨ih.1, SubL_skip ih.2⟩
  case kept =>
    intro pn c c' cs ha hc hs ihc ih
    obtain ⟨hp, hsub⟩ := ihc c' hc
    simp only [pruneKids, ha, hc, hs, Bool.not_true, Bool.false_eq_true, if_false, PrunedKids, SubL]
    refine ⟨⟨hsub.name_eq ▸ ha, hp, fun hst => ?_, ih.1⟩, Or.inl ⟨hsub, ih.2⟩⟩
    -- in strict mode the child was kept because its single-node validation reported nothing
    simpa [hst] using hs

/-- after pruning no remaining node outside metadata content has an unknown name or a child its rule does not
    allow, and in strict mode every remaining non-root node passes single-node validation -/
theorem C15_post (L : Lexer) (T : Tables) (strict : Bool) (t t' : Tree) (h : (pruneT L T strict t).1 = some t') :
    Pruned L T strict t' := ((pruneT_post_both L T strict).1 t t' h).1

/-- exactly subtrees are removed: kept nodes are field-identical and keep their order -/
theorem C15_kept_untouched (L : Lexer) (T : Tables) (strict : Bool) (t t' : Tree) (h : (pruneT L T strict t).1 = some t') :
    SubT t' t := ((pruneT_post_both L T strict).1 t t' h).2

/-- a tree rooted at a known element is never discarded as a whole -/
theorem C15_root_kept (L : Lexer) (T : Tables) (strict : Bool) (t : Tree) (hk : (T.ruleOf t.name).isSome = true) :
    ∃ t', (pruneT L T strict t).1 = some t' := by
  cases t with
  | mk i n c tl p a e ns cs =>
    have hk' : (T.ruleOf n).isNone = false := Option.isNone_eq_false_iff.mpr hk
    simp only [pruneT, hk', Bool.false_eq_true, if_false]
    split <;> exact ⟨_, rfl⟩

theorem prune_fix_both (L : Lexer) (T : Tables) (strict : Bool) :
    (∀ t, Pruned L T strict t → (pruneT L T strict t).1 = some t ∧ prunedList L T strict t = []) ∧
    ∀ cs pn, PrunedKids L T strict pn cs →
      (pruneKids L T strict pn cs).1 = cs ∧ disallowed T pn cs = [] ∧ prunedListKids L T strict pn cs = [] := by
  apply Tree.induct₂
  case mk =>
    intro i n c tl p a e ns cs ih h
    simp only [Pruned] at h
    simp only [pruneT, prunedList]
    by_cases hm : n = "metadata"
    · simp [hm]
    · obtain ⟨hk, hkids⟩ := h.resolve_left hm
      have hk' := Option.isNone_eq_false_iff.mpr hk
      obtain ⟨h1, h2, h3⟩ := ih n hkids
      simp only [if_neg hm, hk', Bool.false_eq_true, if_false, h1, h2, h3, List.append_nil, and_self]
  case nil => intro pn _; simp [pruneKids, disallowed, prunedListKids]
  case cons =>
    intro c cs ihc ih pn h
    simp only [PrunedKids] at h
    obtain ⟨ha, hc, hs, hrest⟩ := h
    obtain ⟨h1, h2, h3⟩ := ih pn hrest
    obtain ⟨c1, c2⟩ := ihc hc
    have hvalid : (strict && !(collectNodeT L T c).isEmpty) = false := by
      cases strict with
      | false => rfl
      | true => simp [hs rfl]
    simp only [pruneKids, disallowed, prunedListKids, List.filter_cons, ha, Bool.not_true, Bool.false_eq_true, if_false, c1, c2,
      hvalid, List.append_nil] at h1 h2 h3 ⊢
    exact ⟨by rw [h1], h2, h3⟩

theorem pruneKids_fix (L : Lexer) (T : Tables) (strict : Bool) (pn : String) : ∀ (cs : List Tree), PrunedKids L T strict pn cs →
    (pruneKids L T strict pn cs).1 = cs ∧ disallowed T pn cs = [] ∧ prunedListKids L T strict pn cs = [] :=
  fun cs => (prune_fix_both L T strict).2 cs pn

/-- pruning a second time removes nothing -/
theorem C15_idempotent (L : Lexer) (T : Tables) (strict : Bool) (t t' : Tree) (h : (pruneT L T strict t).1 = some t') :
    (pruneT L T strict t').1 = some t' ∧ prunedList L T strict t' = [] :=
  (prune_fix_both L T strict).1 t' (C15_post L T strict t t' h)

/-- every node of the original is kept or lies in exactly one removed subtree: the ids of the original are, as a multiset,
    the ids of the pruned tree together with the ids of the removed subtrees (each taken as it was when it was removed) -/
theorem C15_accounting (L : Lexer) (T : Tables) (strict : Bool) (t : Tree) :
    List.Perm t.ids (keptIds (pruneT L T strict t).1 ++ removedIds (removedT L T strict t)) :=
  List.perm_iff_count.mpr fun x => by
    rw [List.count_append]
    exact (count_account_both L T strict x).1 t

/-- the list `prune` returns is, up to order, the list of the removed subtree roots with the reason each was removed for:
    one entry per removed subtree, none for anything else -/
theorem C15_list_is_removed (L : Lexer) (T : Tables) (strict : Bool) (t : Tree) :
    List.Perm (prunedList L T strict t) ((removedT L T strict t).map entryOf) :=
  List.perm_iff_count.mpr fun x => (count_list_both L T strict x).1 t

/-- what makes a removed subtree offending, relative to the tree that was pruned -/
structure Offends (L : Lexer) (T : Tables) (strict : Bool) (inside : List Tree) (top : Option (String × List Tree)) (x : Tree × Reason) : Prop where
  unknown : x.2 = .unknown → (T.ruleOf x.1.name).isNone = true ∧ x.1 ∈ inside
  notAllowed : x.2 = .notAllowed →
    (∃ pn cs, top = some (pn, cs) ∧ x.1 ∈ cs ∧ childAllowed T pn x.1.name = false) ∨
    (∃ par ∈ inside, x.1 ∈ par.children ∧ childAllowed T par.name x.1.name = false)
  invalid : x.2 = .invalid → strict = true ∧ collectNodeT L T x.1 ≠ [] ∧ ∃ orig ∈ inside, (pruneT L T strict orig).1 = some x.1

/-- monotone in the context: there may be more nodes inside, and the child list at the top may grow or turn into the
    child list of a node inside -/
theorem Offends.lift {L : Lexer} {T : Tables} {strict : Bool} {ins ins' : List Tree} {top top' : Option (String × List Tree)}
    {x : Tree × Reason} (h : Offends L T strict ins top x) (hsub : ∀ y ∈ ins, y ∈ ins')
    (htop : ∀ pn cs, top = some (pn, cs) →
      (∃ cs', top' = some (pn, cs') ∧ ∀ y ∈ cs, y ∈ cs') ∨ ∃ par ∈ ins', par.name = pn ∧ par.children = cs) :
    Offends L T strict ins' top' x where
  unknown := fun hu => ⟨(h.unknown hu).1, hsub _ (h.unknown hu).2⟩
  notAllowed := fun hn => by
    rcases h.notAllowed hn with ⟨pn, cs, ht, hc, ha⟩ | ⟨par, hp, hc⟩
    · rcases htop pn cs ht with ⟨cs', ht', hcs⟩ | ⟨par, hp, rfl, rfl⟩
      · exact Or.inl ⟨pn, cs', ht', hcs _ hc, ha⟩
      · exact Or.inr ⟨par, hp, hc, ha⟩
    · exact Or.inr ⟨par, hsub _ hp, hc⟩
  invalid := fun hi => by
    obtain ⟨a, b, orig, ho, hp⟩ := h.invalid hi
    exact ⟨a, b, orig, hsub _ ho, hp⟩

theorem Offends.head {L : Lexer} {T : Tables} {strict : Bool} {pn : String} {c : Tree} {cs : List Tree} {x : Tree × Reason}
    (h : Offends L T strict (Tree.preorder c) none x) :
    Offends L T strict (Tree.preorderL (c :: cs)) (some (pn, c :: cs)) x :=
  h.lift (fun _ hy => List.mem_append_left _ hy) (fun _ _ ht => nomatch ht)

theorem Offends.tail {L : Lexer} {T : Tables} {strict : Bool} {pn : String} {c : Tree} {cs : List Tree} {x : Tree × Reason}
    (h : Offends L T strict (Tree.preorderL cs) (some (pn, cs)) x) :
    Offends L T strict (Tree.preorderL (c :: cs)) (some (pn, c :: cs)) x := by
  refine h.lift (fun _ hy => List.mem_append_right _ hy) (fun _ _ ht => ?_)
  cases ht
  exact Or.inl ⟨_, rfl, fun _ => List.mem_cons_of_mem _⟩

theorem removed_offends_both (L : Lexer) (T : Tables) (strict : Bool) :
    (∀ t, ∀ x ∈ removedT L T strict t, Offends L T strict (Tree.preorder t) none x) ∧
    ∀ pn cs, ∀ x ∈ removedKids L T strict pn cs, Offends L T strict (Tree.preorderL cs) (some (pn, cs)) x := by
  apply prune_induct L T strict
  case metadata => intro i c tl p a e ns cs x hx; simp [removedT] at hx
  case unknown =>
    intro i n c tl p a e ns cs hm hk x hx
    simp only [removedT, if_neg hm, hk, if_true, List.mem_singleton] at hx
    subst hx
    exact ⟨fun _ => ⟨hk, Tree.mem_preorder_self _⟩, (fun h => by cases h), (fun h => by cases h)⟩
  case known =>
    intro i n c tl p a e ns cs hm hk ih x hx
    simp only [removedT, if_neg hm, hk, Bool.false_eq_true, if_false] at hx
    -- one level up: the node itself is now a possible parent, and its descendants are descendants of the whole
    refine (ih x hx).lift (fun _ hy => List.mem_cons_of_mem _ hy) (fun _ _ ht => ?_)
    cases ht
    exact Or.inr ⟨.mk i n c tl p a e ns cs, Tree.mem_preorder_self _, rfl, rfl⟩
  case nil => intro pn x hx; simp [removedKids] at hx
  case notAllowed =>
    intro pn c cs ha ih x hx
    simp only [removedKids, ha, Bool.not_false, if_true, List.mem_cons] at hx
    rcases hx with rfl | hx
    · exact ⟨(fun h => by cases h), (fun _ => Or.inl ⟨pn, c :: cs, rfl, List.mem_cons_self, ha⟩), (fun h => by cases h)⟩
    · exact (ih x hx).tail
  case discarded =>
    intro pn c cs ha hc ihc ih x hx
    simp only [removedKids, ha, hc, Bool.not_true, Bool.false_eq_true, if_false, List.mem_append] at hx
    rcases hx with hx | hx
    · exact (ihc x hx).head
    · exact (ih x hx).tail
  case invalid =>
    intro pn c c' cs ha hc hs ihc ih x hx
    simp only [removedKids, ha, hc, hs, Bool.not_true, Bool.false_eq_true, if_false, if_true, List.mem_append,
      List.mem_singleton] at hx
    rcases hx with (hx | rfl) | hx
    · exact (ihc x hx).head
    · simp only [Bool.and_eq_true, Bool.not_eq_true', List.isEmpty_eq_false_iff] at hs
      exact ⟨(fun h => by cases h), (fun h => by cases h),
        (fun _ => ⟨hs.1, hs.2, c, List.mem_append_left _ c.mem_preorder_self, hc⟩)⟩
    · exact (ih x hx).tail
  case kept =>
    intro pn c c' cs ha hc hs ihc ih x hx
    simp only [removedKids, ha, hc, hs, Bool.not_true, Bool.false_eq_true, if_false, List.append_nil, List.mem_append] at hx
    rcases hx with hx | hx
    · exact (ihc x hx).head
    · exact (ih x hx).tail

theorem removedKids_offends (L : Lexer) (T : Tables) (strict : Bool) (pn : String) : ∀ (cs : List Tree),
    ∀ x ∈ removedKids L T strict pn cs, Offends L T strict (Tree.preorderL cs) (some (pn, cs)) x :=
  (removed_offends_both L T strict).2 pn

/-- nothing else is removed: every removed subtree offends — its name is unknown, or the rule of its parent (a node of the
    tree) does not allow it, or (strict mode only) it is the pruned form of a node of the tree and fails single-node validation -/
theorem C15_removed_offend (L : Lexer) (T : Tables) (strict : Bool) (t : Tree) :
    ∀ x ∈ removedT L T strict t, Offends L T strict (Tree.preorder t) none x :=
  (removed_offends_both L T strict).1 t

/-- the returned list names nodes of the tree that was pruned (never anything else), and gives the reason "invalid" only in
    strict mode -/
theorem C15_listed_are_nodes (L : Lexer) (T : Tables) (strict : Bool) (t : Tree) :
    ∀ x ∈ prunedList L T strict t, x.1 ∈ (Tree.preorder t).map Tree.id ∧ (x.2 = .invalid → strict = true) := by
  intro x hx
  -- an entry of the list is the root of a removed subtree, and every node of a removed subtree is a node of the tree
  obtain ⟨y, hy, rfl⟩ := List.mem_map.mp ((C15_list_is_removed L T strict t).mem_iff.mp hx)
  refine ⟨?_, fun h => ((C15_removed_offend L T strict t y hy).invalid h).1⟩
  apply (C15_accounting L T strict t).mem_iff.mpr
  exact List.mem_append_right _ (List.mem_flatMap.mpr ⟨y, hy, y.1.id_mem_ids⟩)

end Metapype
