import MetapypeModel.Lemmas.EvaluateLemmas
import MetapypeModel.Lemmas.TreeLemmas
import MetapypeModel.Gen.Facts
import MetapypeModel.Props.C20
/-
  C19 — evaluation is total and reports exactly the documented recommendations.
  The model functions are total by construction (every partial Python operation of the repaired code
  is guarded); the theorems characterise the warnings declaratively and tie the dispatch table and the
  warning codes to the regenerated source facts.
-/
namespace Metapype

/-- the dispatch table of the model is the dispatch table of the code (regenerated `evaluate.rules`) -/
theorem C19_dispatch : (∀ x ∈ Gen.evaluateRules.map (·.1), x ∈ evalDispatch) ∧ (∀ x ∈ evalDispatch, x ∈ Gen.evaluateRules.map (·.1)) := by
  decide +kernel

/-- elements without an evaluator produce no warning -/
theorem C19_no_rule_no_warning (pn : Option String) (t : Tree) (h : t.name ∉ evalDispatch) : evalNode pn t = [] := by
  simp only [evalDispatch, List.mem_cons, List.not_mem_nil, or_false, not_or] at h
  simp only [evalNode, h, or_self, if_false]

/-- responsible parties: the three recommendations, each exactly when its condition fails -/
theorem C19_party (t : Tree) :
    ("ORCID_ID_MISSING" ∈ partyRule t ↔
      ¬ ∃ c ∈ t.children, c.name = "userId" ∧ truthy c.content = true ∧ c.attrs.get? "directory" = some "https://orcid.org") ∧
    ("USER_ID_MISSING" ∈ partyRule t ↔ ¬ ∃ c ∈ t.children, c.name = "userId" ∧ truthy c.content = true) ∧
    ("EMAIL_MISSING" ∈ partyRule t ↔ ¬ ∃ c ∈ t.children, c.name = "electronicMailAddress" ∧ truthy c.content = true) := by
  -- the three codes are different strings (`String.reduceEq`), so each picks out its own disjunct
  simp only [partyRule, List.mem_append, List.mem_ite_nil_right, List.mem_singleton, Bool.not_eq_true', ← Bool.not_eq_true, List.any_eq_true,
    Bool.and_eq_true, beq_iff_eq, and_assoc, String.reduceEq, and_true, and_false, or_false, false_or, and_self]

/-- dataset title: too short exactly when the normalised title has fewer than five space-separated pieces -/
theorem C19_title (pn : Option String) (t : Tree) :
    "TITLE_TOO_SHORT" ∈ titleRule pn t ↔
      pn = some "dataset" ∧ ∃ c, t.content = some c ∧ (splitSp (normalizeText c.toList)).length < 5 := by
  unfold titleRule
  cases t.content with
  | none => simp
  | some c => by_cases hp : pn = some "dataset" <;> simp [hp]

/-- individual names: incomplete exactly when a non-empty given name or a non-empty surname is lacking -/
theorem C19_individual_name (t : Tree) :
    individualNameRule t = [] ↔
      (∃ c ∈ t.children, c.name = "givenName" ∧ truthy c.content = true) ∧ (∃ c ∈ t.children, c.name = "surName" ∧ truthy c.content = true) := by
  simp only [individualNameRule, ite_nil_eq_nil, Bool.and_eq_true, List.any_eq_true, beq_iff_eq]

/-- entities: description missing exactly when no entityDescription child has text -/
theorem C19_entity_description (t : Tree) :
    (otherEntityRule t = [] ↔ ∃ c ∈ t.children, c.name = "entityDescription" ∧ truthy c.content = true) := by
  simp only [otherEntityRule, ite_nil_eq_nil, Bool.and_eq_true, List.any_eq_true, beq_iff_eq]

/-- empty descriptions are reported exactly under the eight listed parents -/
theorem C19_description (pn : Option String) (t : Tree) :
    descriptionRule pn t ≠ [] ↔ getTextContent t = "" ∧
      pn ∈ [some "connectionDefinition", some "designDescription", some "maintenance", some "methodStep",
            some "procedureStep", some "qualityControl", some "samplingDescription", some "studyExtent"] := by
  unfold descriptionRule
  by_cases hc : getTextContent t = ""
  · simp only [hc, bne_self_eq_false, Bool.false_eq_true, if_false, true_and, List.mem_cons, List.not_mem_nil, or_false]
    split
    -- one goal for each of the eight parents, in the order of the list
    iterate 8 simp only [ne_eq, reduceCtorEq, not_false_eq_true, true_or, or_true]
    -- the default arm: the parent is none of the eight
    next h1 h2 h3 h4 h5 h6 h7 h8 =>
      simp only [ne_eq, not_true_eq_false, false_iff, not_or]
      exact ⟨h1, h2, h3, h4, h5, h6, h7, h8⟩
  · simp [hc]

/-- the warning codes written in Model/Evaluate.lean (listed here by hand) are members of the regenerated `EvaluationWarning`
    enumeration -/
theorem C19_codes_are_members :
    ∀ w ∈ ["ORCID_ID_MISSING", "USER_ID_MISSING", "EMAIL_MISSING", "DATASET_ABSTRACT_TOO_SHORT", "DATASET_ABSTRACT_MISSING",
           "DATASET_COVERAGE_MISSING", "DATATABLE_MISSING", "INTELLECTUAL_RIGHTS_MISSING", "KEYWORDS_MISSING", "KEYWORDS_INSUFFICIENT",
           "DATASET_METHOD_STEPS_MISSING", "DATASET_PROJECT_MISSING", "DATATABLE_DESCRIPTION_MISSING", "DATATABLE_SIZE_MISSING",
           "DATATABLE_MD5_CHECKSUM_MISSING", "DATATABLE_NUMBER_OF_RECORDS_MISSING", "DATATABLE_RECORD_DELIMITER_MISSING",
           "CONNECTION_DEFINITION_DESCRIPTION_MISSING", "DESIGN_DESCRIPTION_DESCRIPTION_MISSING", "MAINTENANCE_DESCRIPTION_MISSING",
           "METHOD_STEP_DESCRIPTION_MISSING", "PROCEDURE_STEP_DESCRIPTION_MISSING", "QUALITY_CONTROL_DESCRIPTION_MISSING",
           "SAMPLING_DESCRIPTION_DESCRIPTION_MISSING", "STUDY_EXTENT_DESCRIPTION_MISSING", "INDIVIDUAL_NAME_INCOMPLETE",
           "OTHER_ENTITY_DESCRIPTION_MISSING", "TITLE_TOO_SHORT"],
      w ∈ Gen.evaluationWarningMembers := by decide +kernel

theorem evalTree_paths_both :
    (∀ (t : Tree) (pn : Option String) (path : List Nat), ∀ wp ∈ evalTree pn t path, path <+: wp.2) ∧
    ∀ (cs : List Tree) (pn : Option String) (path : List Nat) (k : Nat), ∀ wp ∈ evalKids pn cs path k, path <+: wp.2 := by
  apply Tree.induct₂
  case mk =>
    intro i n c tl p a e ns cs ih pn path wp h
    simp only [evalTree, List.mem_append, List.mem_map] at h
    rcases h with ⟨w, _, rfl⟩ | h
    · exact List.prefix_refl _
    · exact ih (some n) path 0 wp h
  case nil => intro pn path k wp h; simp [evalKids] at h
  case cons =>
    intro c cs ihc ih pn path k wp h
    simp only [evalKids, List.mem_append] at h
    rcases h with h | h
    · exact (List.prefix_append path [k]).trans (ihc pn (path ++ [k]) wp h)
    · exact ih pn path (k + 1) wp h

theorem evalKids_paths (pn : Option String) : ∀ (cs : List Tree) (path : List Nat) (k : Nat), ∀ wp ∈ evalKids pn cs path k, path <+: wp.2 :=
  fun cs => evalTree_paths_both.2 cs pn

/-- appending: evaluating into a list that already has entries leaves them undisturbed (the Python code
    only ever calls `warnings.extend`) — in the model the result is literally `ws ++ evalTree …` -/
theorem C19_appends (ws : List (String × List Nat)) (t : Tree) :
    (ws ++ evalTree none t []).take ws.length = ws := List.take_left

example : evalTree none (.mk "1" "dataset" none none none [] [] []
    [.mk "2" "title" (some "A short title") none none [] [] [] [],
     .mk "3" "creator" none none none [] [] [] [.mk "4" "individualName" none none none [] [] [] [.mk "5" "surName" (some "X") none none [] [] [] []]]]) [] =
    [("DATASET_ABSTRACT_MISSING", []), ("DATASET_COVERAGE_MISSING", []), ("DATATABLE_MISSING", []), ("INTELLECTUAL_RIGHTS_MISSING", []),
     ("KEYWORDS_MISSING", []), ("DATASET_METHOD_STEPS_MISSING", []), ("DATASET_PROJECT_MISSING", []), ("TITLE_TOO_SHORT", [0]),
     ("ORCID_ID_MISSING", [1]), ("USER_ID_MISSING", [1]), ("EMAIL_MISSING", [1]), ("INDIVIDUAL_NAME_INCOMPLETE", [1, 0])] := by
  decide +kernel

/-- the dataset-level recommendations, each exactly when its documented condition holds.  Among several children of one name
    the LAST abstract / coverage / intellectualRights is the one looked at (stated explicitly through `lastNamed`);
    keywords are counted over all keyword sets. -/
theorem C19_dataset (t : Tree) :
    ("DATASET_ABSTRACT_MISSING" ∈ datasetRule t ↔ ∀ a, lastNamed "abstract" t.children = some a → getTextContent a = "") ∧
    ("DATASET_ABSTRACT_TOO_SHORT" ∈ datasetRule t ↔ ∃ a, lastNamed "abstract" t.children = some a ∧ getTextContent a ≠ "" ∧
        pyWordCount (getTextContent a).toList < 20) ∧
    ("DATASET_COVERAGE_MISSING" ∈ datasetRule t ↔ ∀ c, lastNamed "coverage" t.children = some c → c.children = []) ∧
    ("DATATABLE_MISSING" ∈ datasetRule t ↔ ¬ ∃ c ∈ t.children, c.name = "dataTable") ∧
    ("INTELLECTUAL_RIGHTS_MISSING" ∈ datasetRule t ↔
        ∀ r, lastNamed "intellectualRights" t.children = some r → truthy r.content = false) ∧
    ("KEYWORDS_MISSING" ∈ datasetRule t ↔ ¬ ∃ c ∈ t.children, c.name = "keywordSet") ∧
    ("KEYWORDS_INSUFFICIENT" ∈ datasetRule t ↔ (∃ c ∈ t.children, c.name = "keywordSet") ∧ keywordTotal t.children < 5) ∧
    ("DATASET_METHOD_STEPS_MISSING" ∈ datasetRule t ↔ ¬ ∃ c ∈ t.children, c.name = "methods") ∧
    ("DATASET_PROJECT_MISSING" ∈ datasetRule t ↔ ¬ ∃ c ∈ t.children, c.name = "project") := by
  -- the nine codes are different strings (`String.reduceEq`), so each picks out its own disjunct
  simp only [datasetRule, List.mem_append, mem_dsAbstractW, mem_dsCoverageW, mem_dsRightsW, mem_dsKeywordsW,
    dsDataTableW, dsMethodsW, dsProjectW, List.mem_ite_nil_right, List.mem_singleton, Option.isNone_iff_eq_none, lastNamed_none_iff,
    String.reduceEq, true_and, and_true, false_and, and_false, or_false, false_or, and_self]

/-- a missing abstract is the same as "no abstract child, or the last one has no text" -/
theorem C19_abstract_missing_iff (t : Tree) :
    "DATASET_ABSTRACT_MISSING" ∈ datasetRule t ↔
      (¬ ∃ c ∈ t.children, c.name = "abstract") ∨ ∃ a, lastNamed "abstract" t.children = some a ∧ getTextContent a = "" := by
  rw [(C19_dataset t).1, ← lastNamed_none_iff]
  cases lastNamed "abstract" t.children <;> simp

/-- data tables: each recommendation exactly when the node the documentation points at (`dtParts`) is absent or empty -/
theorem C19_datatable (t : Tree) :
    ("DATATABLE_DESCRIPTION_MISSING" ∈ dataTableRule t ↔
        ¬ ∃ c ∈ t.children, c.name = "entityDescription" ∧ truthy c.content = true) ∧
    ("DATATABLE_SIZE_MISSING" ∈ dataTableRule t ↔ ∀ n, (dtParts t.children).size = some n → truthy n.content = false) ∧
    ("DATATABLE_MD5_CHECKSUM_MISSING" ∈ dataTableRule t ↔ ∀ n, (dtParts t.children).auth = some n → truthy n.content = false) ∧
    ("DATATABLE_NUMBER_OF_RECORDS_MISSING" ∈ dataTableRule t ↔ ∀ n, (dtParts t.children).nrec = some n → truthy n.content = false) ∧
    ("DATATABLE_RECORD_DELIMITER_MISSING" ∈ dataTableRule t ↔ ∀ n, (dtParts t.children).rd = some n → truthy n.content = false) := by
  -- the five codes are different strings (`String.reduceEq`), so each picks out its own disjunct
  simp only [dataTableRule, dtDescW, List.mem_append, List.mem_ite_nil_right, List.mem_ite_nil_left, List.mem_singleton,
    missingOrEmpty_iff, List.any_eq_true, Bool.and_eq_true, beq_iff_eq, String.reduceEq, and_true, and_false, or_false, false_or,
    and_self]

/-- the title recommendation counts WORDS: the non-blank pieces of the content between spaces / no-break spaces
    (`normWords`, characterised by `normWords_spec` in Props/C20) - a piece that consists of white space only is not counted,
    and a title without any word is too short -/
theorem C19_title_word_count (pn : Option String) (t : Tree) :
    "TITLE_TOO_SHORT" ∈ titleRule pn t ↔
      pn = some "dataset" ∧ ∃ c, t.content = some c ∧ (normWords c.toList).length < 5 := by
  rw [C19_title]
  -- the pieces `split(' ')` makes of the normalised text are the words, except that no word at all gives one empty piece
  have hpieces : ∀ cs : List Char, (splitSp (normalizeText cs)).length < 5 ↔ (normWords cs).length < 5 := by
    intro cs
    by_cases h : normWords cs = []
    · have : normalizeText cs = [] := by unfold normalizeText; rw [h]; rfl
      rw [this, h]; simp [splitSp]
    · rw [C20_split_is_words cs h]
  simp only [hpieces]

end Metapype
