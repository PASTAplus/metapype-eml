import MetapypeModel.Model.Registry
import MetapypeModel.Props.C12
import MetapypeModel.Lemmas.RegistryPrune
import MetapypeModel.Props.C15
import MetapypeModel.Lemmas.ExpandIds
/-
  C14 — the node registry tracks exactly the live nodes.
-/
namespace Metapype

/-- `delete_node_instance(id)`: exactly that node and exactly its descendants leave the registry -/
theorem C14_delete (t : IdTree) (R R' : Registry) (h : R.delTree t = some R') :
    ∀ k, k ∈ R'.keys ↔ (k ∈ R.keys ∧ k ∉ t.ids) := delete_keys_iff h

/-- `delete_node_instance(id, children=False)`: exactly that id -/
theorem C14_delete_one (R R' : Registry) (i : String) (h : R.del i = some R') :
    ∀ k, k ∈ R'.keys ↔ (k ∈ R.keys ∧ k ≠ i) := by
  intro k
  rw [del_keys h, List.mem_filter]
  simp

/-- every node created directly, by copy or by import is registered, and nothing else is added -/
theorem C14_add (R : Registry) (es : List (String × Nat)) (x : String) :
    x ∈ (R.addAll es).keys ↔ (x ∈ R.keys ∨ x ∈ es.map (·.1)) := by
  induction es generalizing R with
  | nil => simp [Registry.addAll]
  | cons e es ih =>
    rw [Registry.addAll, List.foldl_cons, ← Registry.addAll, ih, set_keys, List.map_cons, List.mem_cons, or_assoc]

/-- the live ids after a history, as the documented semantics say: added by create/copy/import,
    removed by delete — nothing else -/
def liveAfter : List String → List RegOp → List String
  | l, [] => l
  | l, .add t :: ops => liveAfter (l ++ t.ids) ops
  | l, .delTree t :: ops => liveAfter (l.filter (fun k => !(t.ids.contains k))) ops
  | l, .delOne i :: ops => liveAfter (l.filter (· != i)) ops

theorem entriesL_ids : ∀ (ks : List IdTree), (IdTree.entriesL ks).map (·.1) = IdTree.idsL ks := entries_ids_both.2

/-- registry = live nodes, along every history that runs without an exception -/
theorem C14_registry_exact : ∀ (ops : List RegOp) (R R' : Registry) (l : List String),
    (∀ k, k ∈ R.keys ↔ k ∈ l) →
    ops.foldlM (fun r op => regStep r op) R = some R' →
    ∀ k, k ∈ R'.keys ↔ k ∈ liveAfter l ops := by
  intro ops
  induction ops with
  | nil =>
    intro R R' l h hr
    cases hr
    exact h
  | cons op ops ih =>
    intro R R' l h hr
    simp only [List.foldlM_cons, Option.bind_eq_bind, Option.bind_eq_some_iff] at hr
    obtain ⟨R1, hs, hr⟩ := hr
    -- in each case: the keys after the step are the list `liveAfter` goes on with
    cases op with
    | add t =>
      cases hs
      refine ih _ R' (l ++ t.ids) (fun k => ?_) hr
      rw [C14_add, entries_ids_both.1, List.mem_append, h k]
    | delTree t =>
      refine ih R1 R' (l.filter (fun k => !(t.ids.contains k))) (fun k => ?_) hr
      rw [C14_delete t R R1 hs, List.mem_filter, h k]
      simp
    | delOne i =>
      refine ih R1 R' (l.filter (· != i)) (fun k => ?_) hr
      rw [C14_delete_one R R1 i hs, List.mem_filter, h k]
      simp

/-- a registered id retrieves the node registered last under it (Python dict assignment) -/
theorem C14_lookup (R : Registry) (k : String) (v : Nat) : (R.set k v).get? k = some v := by
  fun_induction Registry.set R k v with
  | case1 => simp [Registry.get?]                        -- empty registry
  | case2 k' v' R k v hb => simp [Registry.get?, hb]     -- the first entry has the key
  | case3 k' v' R k v hb ih =>                           -- the first entry has another key
    simp only [Registry.get?, List.find?_cons, Bool.not_eq_true _ ▸ hb] at ih ⊢
    exact ih

/-- ids of distinct nodes never collide: fresh uuids are pairwise distinct (from C12's supply model) -/
theorem C14_ids_distinct (u : Nat → String) (hu : Function.Injective u) (t : OTree) (s : Supply) :
    (copyO u t s).1.ids.Nodup := (C12_fresh_ids u hu t s).1

/-- `delete_node_instance(id)` never raises on a subtree whose nodes are registered and carry pairwise distinct ids -/
theorem C14_delete_total (t : IdTree) (R : Registry) (hsub : ∀ i ∈ t.ids, i ∈ R.keys) (hnd : t.ids.Nodup) :
    ∃ R', R.delTree t = some R' := delTree_ok_both.1 t R hsub hnd

/-- `prune` and the registry (C14 ∘ C15): on a registered tree with pairwise distinct ids, discarding every removed subtree
    (one `delete_node_instance` call per entry of `removedT`, as validate.prune does) never raises; afterwards the ids that
    left the registry are exactly those of the removed subtrees, and among the ids of the tree exactly the kept nodes remain
    registered — ids outside the tree are not touched -/
theorem C14_prune (L : Lexer) (T : Tables) (strict : Bool) (t : Tree) (R : Registry)
    (hsub : ∀ i ∈ t.ids, i ∈ R.keys) (hnd : t.ids.Nodup) :
    ∃ R', discardAll R (removedT L T strict t) = some R' ∧
      (∀ k, k ∈ R'.keys ↔ (k ∈ R.keys ∧ k ∉ removedIds (removedT L T strict t))) ∧
      (∀ k ∈ t.ids, k ∈ R'.keys ↔ k ∈ keptIds (pruneT L T strict t).1) := by
  have hperm := C15_accounting L T strict t
  have hnd' := hperm.nodup_iff.mp hnd
  rw [List.nodup_append] at hnd'
  obtain ⟨R', h1, h2⟩ := discardAll_ok (removedT L T strict t) R
    (fun i hi => hsub i (hperm.mem_iff.mpr (List.mem_append.mpr (Or.inr hi)))) hnd'.2.1
  refine ⟨R', h1, h2, ?_⟩
  intro k hk
  rw [h2 k]
  have hm := List.mem_append.mp (hperm.mem_iff.mp hk)
  exact ⟨fun h => hm.resolve_right h.2, fun hkept => ⟨hsub k hk, fun hr => hnd'.2.2 k hkept k hr rfl⟩⟩

/-- the id premise of `C14_prune` is satisfiable: a three-node tree with pairwise distinct ids -/
example : ∃ t : Tree, t.ids.Nodup ∧ t.ids = ["a", "b", "c"] :=
  ⟨.mk "a" "x" none none none [] [] [] [.mk "b" "y" none none none [] [] [] [], .mk "c" "z" none none none [] [] [] []], by decide +kernel, by decide +kernel⟩

/-- reference expansion and the registry (C14 ∘ C16): on a registered tree with pairwise distinct ids and an id supply that is
    fresh for the registry, registering the copies and discarding every `references` subtree (one `delete_node_instance` each,
    as references.expand does) never raises; afterwards exactly the copies have been added and exactly the nodes of the
    discarded subtrees removed, every node of the expanded tree is registered and no discarded node is -/
theorem C14_expand (u : Nat → String) (root t' : Tree) (s : Nat) (R : Registry)
    (hsub : ∀ i ∈ root.ids, i ∈ R.keys) (hnd : root.ids.Nodup) (hfresh : ∀ k, s ≤ k → u k ∉ R.keys)
    (h : expandT u root s = some t') :
    ∃ R', discardTrees (R.addAll ((drawn u s (substT u (idsOf root) root s).2).map (fun i => (i, 0)))) (refTreesT root) = some R' ∧
      (∀ k, k ∈ R'.keys ↔ ((k ∈ R.keys ∨ k ∈ drawn u s (substT u (idsOf root) root s).2) ∧ k ∉ refIdsT root)) ∧
      (∀ k ∈ t'.ids, k ∈ R'.keys) ∧ (∀ k ∈ refIdsT root, k ∉ R'.keys) := by
  cases expandT_eq_some h
  generalize hs2 : (substT u (idsOf root) root s).2 = s2
  have hexact := fun x => substT_ids_exact u (idsOf root) x root s
  rw [hs2] at hexact
  have hdrawn_fresh : ∀ x ∈ drawn u s s2, x ∉ root.ids := by
    intro x hx hr
    obtain ⟨k, hk, rfl⟩ := mem_drawn hx
    exact hfresh k hk (hsub _ hr)
  have hkeys1 : ∀ k, k ∈ (R.addAll ((drawn u s s2).map (fun i => (i, 0)))).keys ↔ (k ∈ R.keys ∨ k ∈ drawn u s s2) := by
    intro k
    rw [C14_add]
    simp [Function.comp_def]
  have href_sub := (refIdsT_sublist root).subset
  have hids : (refTreesT root).flatMap Tree.ids = refIdsT root := (refIdsT_eq root).symm
  obtain ⟨R', h1, h2⟩ := discardTrees_ok (refTreesT root) (R.addAll ((drawn u s s2).map (fun i => (i, 0))))
    (fun i hi => (hkeys1 i).mpr (Or.inl (hsub i (href_sub (hids ▸ hi)))))
    (hids ▸ (refIdsT_sublist root).nodup hnd)
  rw [hids] at h2
  refine ⟨R', h1, fun k => by rw [h2 k, hkeys1 k], fun k hk => ?_, fun k hk hin => ((h2 k).mp hin).2 hk⟩
  rw [h2 k, hkeys1 k]
  -- `k` occurs in the result; by the bookkeeping it occurs in the original or among the drawn ids, and then not in a discarded subtree
  have hpos : 0 < (substT u (idsOf root) root s).1.ids.count k := List.count_pos_iff.mpr hk
  have hx := hexact k
  by_cases hr : k ∈ root.ids
  · have hd0 : (drawn u s s2).count k = 0 := List.count_eq_zero.mpr (fun hd => hdrawn_fresh k hd hr)
    -- no drawn id is `k`, and the original holds `k` once: the result and the discarded subtrees share that one occurrence
    have hcount : (substT u (idsOf root) root s).1.ids.count k + (refIdsT root).count k ≤ 1 := by
      rw [hx, hd0]
      exact List.nodup_iff_count.mp hnd k
    exact ⟨Or.inl (hsub k hr), fun href => by have := List.count_pos_iff.mpr href; omega⟩
  · have h0 : root.ids.count k = 0 := List.count_eq_zero.mpr hr
    -- the original does not hold `k`: every occurrence in the result is a drawn id
    have hcount : (substT u (idsOf root) root s).1.ids.count k + (refIdsT root).count k = (drawn u s s2).count k := by
      rw [hx, h0, Nat.zero_add]
    exact ⟨Or.inr (List.count_pos_iff.mp (by omega)), fun href => hr (href_sub href)⟩

end Metapype
