import MetapypeModel.Lemmas.MatcherTop
import MetapypeModel.Lemmas.NodeLemmas
import MetapypeModel.Gen.Rules
/-
  C01 — child-sequence validation equals the rule's declared content model.

  `validateChildren` is the model of `Rule._validate_children` (collecting
  mode; fail-fast observes the head of the same list).  `Lang strict mixed`
  is the declarative language of a children spec.  `wfTop` is the syntactic
  class (pairwise distinct names; sequences of rule children and choices;
  repeating choices `[·, ≤1, ∞]` over rule children with min ≤ 1 ≤ max;
  exactly-one choices `[·, ≤1, 1]` over rule children and sequences) on which
  the greedy cursor is exact; the last theorem shows by kernel evaluation that
  every rule of the regenerated table is in the class.  All other statements
  are for every spec of the class and every finite sequence (no bound).
-/
namespace Metapype

/-- acceptance (no event in collecting mode) ⇔ membership in the rule's language -/
theorem C01_accept_iff (s : Spec) (hw : wfTop s = true) (nodeName : String) (hn : nodeName ≠ "metadata")
    (M : Bool) (xs : List String) :
    validateChildren nodeName M s xs = [] ↔ Lang true M s xs := by
  rw [validateChildren, cutAtCrash_eq_nil_iff, validateChildrenRaw_nil_iff hw hn]

/-- the strict reading is contained in the lax one: the two differ only on sequences whose
    membership depends on whether an alternative that matches nothing counts as an occurrence -/
theorem C01_strict_sub_lax (M : Bool) (s : Spec) (w : List String) : Lang true M s w → Lang false M s w :=
  Lang_strict_lax M s w

/-- the property as worded: in the language (strictly) ⇒ accepted; outside it (even laxly) ⇒ rejected -/
theorem C01_specified (s : Spec) (hw : wfTop s = true) (nodeName : String) (hn : nodeName ≠ "metadata")
    (M : Bool) (xs : List String) :
    (Lang true M s xs → validateChildren nodeName M s xs = []) ∧
    (¬ Lang false M s xs → validateChildren nodeName M s xs ≠ []) := by
  refine ⟨(C01_accept_iff s hw nodeName hn M xs).mpr, ?_⟩
  intro hnl hacc
  exact hnl (Lang_strict_lax M s xs ((C01_accept_iff s hw nodeName hn M xs).mp hacc))

/-- every reported event is a child-not-allowed / minimum / maximum occurrence error:
    never a crash, and the `while` loop of `_validate_choice` never diverges -/
theorem C01_error_family (s : Spec) (hw : wfTop s = true) (nodeName : String) (M : Bool) (xs : List String) :
    ∀ e ∈ validateChildren nodeName M s xs, e = .err .childNotAllowed ∨ OccEv e := by
  -- all of them are errors, so nothing is cut off
  rw [validateChildren, cutAtCrash_of_errs _ (validateChildrenRaw_errs nodeName M s hw xs)]
  exact validateChildrenRaw_evs nodeName M s hw xs

/-- both modes alike: fail-fast raises (at the head of the collected list) iff collecting mode reports -/
theorem C01_modes (s : Spec) (nodeName : String) (M : Bool) (xs : List String) :
    (validateChildren nodeName M s xs).head? = none ↔ validateChildren nodeName M s xs = [] :=
  List.head?_eq_none_iff

/-- an empty children section accepts exactly the empty sequence -/
theorem C01_empty_spec (nodeName : String) (hn : nodeName ≠ "metadata") (M : Bool) (xs : List String) :
    validateChildren nodeName M (.seq []) xs = [] ↔ xs = [] := by
  rw [C01_accept_iff (.seq []) (by decide) nodeName hn M xs]
  simp [Lang, LangSeq]

/-- a `metadata` parent accepts any single child whatever its rule says -/
theorem C01_metadata (s : Spec) (M : Bool) (xs : List String) :
    validateChildren "metadata" M s xs = [] ↔ xs.length ≤ 1 := by
  simp only [validateChildren, cutAtCrash_eq_nil_iff, validateChildrenRaw, if_true, ite_eq_right_iff, reduceCtorEq, imp_false,
    Nat.not_lt]

/-- non-vacuity: a concrete rule of the class with a nested exactly-one choice and a repeating choice -/
example : wfTop (.seq [.choice [.seq [.leaf "a" 0 none, .choice [.leaf "b" 1 (some 1), .leaf "c" 1 (some 1)] 0 none],
                                .leaf "references" 1 (some 1)] 1 (some 1)]) = true := by decide

/-- table: every rule of the regenerated rule table lies in the class the theorems cover -/
theorem C01_table_wf : ∀ r ∈ Gen.rules, wfTop r.children = true := by decide +kernel

end Metapype
