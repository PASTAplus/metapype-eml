import MetapypeModel.Props.C01
import MetapypeModel.Gen.Facts
import MetapypeModel.Gen.NameWitness
import MetapypeModel.Lemmas.InsertIndex
import MetapypeModel.Props.C10
import MetapypeModel.Lemmas.ListLemmas
/-
  C17 — suggested insertion index is schema-legal and restores validity when possible.

  Proved for every spec, every existing child sequence and every candidate: bounds, refusal,
  rank order, and the allowed-child query (one direction in general, the other for the whole
  regenerated table through kernel-checked witnesses and C01), and "restores validity whenever
  possible" (`C17_restores`, for every spec of the class `wfTop` of C01, every existing child
  sequence of any length and every candidate; `C17_restores_table` instantiates it on the
  regenerated table).
-/
namespace Metapype

/-- the suggested index lies within bounds -/
theorem C17_bounds (s : Spec) (xs : List String) (c : String) (i : Nat)
    (h : childInsertIndex s xs c = .ok i) : i ≤ xs.length := by
  unfold childInsertIndex at h
  split at h
  · cases h
  · obtain ⟨j, rfl, hj, -⟩ := scan_ok _ _ xs 0 i h
    rwa [Nat.zero_add]

/-- a name the rule does not allow is refused with the child-not-allowed error, and only such a name -/
theorem C17_refuse (s : Spec) (xs : List String) (c : String) :
    childInsertIndex s xs c = .notAllowed ↔ isAllowedChild s c = false := by
  rw [isAllowedChild, List.contains_eq_mem, decide_eq_false_iff_not, ← idxOf_none_iff, childInsertIndex]
  cases idxOf s.names c with
  | none => exact iff_of_true rfl rfl
  | some r => exact iff_of_false (scan_ne_notAllowed s.names r xs 0) nofun

/-- rank of a child name in the rule's flattened order (children the rule does not name have none) -/
def rankOf (s : Spec) (x : String) : Option Nat := idxOf s.names x

/-- the suggested position keeps children in the rule's declared order: every child before it has a rank
    not above the new child's, and the child now at that position (if any) has a strictly greater rank -/
theorem C17_order (s : Spec) (xs : List String) (c : String) (i r : Nat)
    (hr : rankOf s c = some r) (h : childInsertIndex s xs c = .ok i) :
    (∀ j, j < i → ∃ rx, (xs[j]?).bind (rankOf s) = some rx ∧ rx ≤ r) ∧
    (i < xs.length → ∃ rx, (xs[i]?).bind (rankOf s) = some rx ∧ r < rx) := by
  unfold childInsertIndex at h
  unfold rankOf at hr
  rw [hr] at h
  obtain ⟨j, rfl, -, h1, h2⟩ := scan_ok s.names r xs 0 i h
  rw [Nat.zero_add]
  exact ⟨h1, h2⟩

/-- the allowed-child query is true for every name that occurs in some valid child sequence … -/
theorem C17_allowed_of_occurs (M : Bool) (s : Spec) (c : String) (w : List String)
    (hl : Lang true M s w) (hc : c ∈ w) : isAllowedChild s c = true :=
  List.contains_iff_mem.mpr (Lang_names_sub true M s w hl c hc)

/-- the rules with the child names they mention, flattened in table order: the list the translator's witnesses run along -/
def ruleNamePairs : List (Rule × String) := Gen.rules.flatMap (fun r => r.children.names.map (fun c => (r, c)))

/-- the translator lists the witnesses rule by rule, one per child name, in the order of the table -/
theorem nameWitnesses_aligned :
    Gen.nameWitnesses.map (fun t => (t.1, t.2.1)) = ruleNamePairs.map (fun p => (p.1.name, p.2)) := by
  decide +kernel

/-- every witness the translator found for a (rule, name) pair of the regenerated table is a child sequence that
    contains the name and that the matcher accepts under that rule (kernel evaluation of the matcher) -/
theorem C17_witnesses_accepted :
    ∀ t ∈ Gen.nameWitnesses, ∃ r ∈ Gen.rules, r.name = t.1 ∧ t.2.1 ∈ t.2.2 ∧
      validateChildren "x" (isMixed Gen.mixedRules r) r.children t.2.2 = [] := by
  intro t ht
  -- the rule of a witness is its partner in the zip with `ruleNamePairs`, not searched for
  obtain ⟨p, hp, hal⟩ := exists_zip_of_map_eq nameWitnesses_aligned t ht
  obtain ⟨r, hr, hrc⟩ := List.mem_flatMap.mp (List.of_mem_zip hp).2
  obtain ⟨c, -, rfl⟩ := List.mem_map.mp hrc
  exact ⟨r, hr, (Prod.mk.inj hal).1.symm, (by decide +kernel : ∀ p ∈ Gen.nameWitnesses.zip ruleNamePairs,
    p.1.2.1 ∈ p.1.2.2 ∧ validateChildren "x" (isMixed Gen.mixedRules p.2.1) p.2.1.children p.1.2.2 = []) _ hp⟩

/-- … and there is a witness for every name every rule of the table mentions -/
theorem C17_witnesses_cover :
    ∀ r ∈ Gen.rules, ∀ c ∈ r.children.names, (r.name, c) ∈ Gen.nameWitnesses.map (fun t => (t.1, t.2.1)) := by
  intro r hr c hc
  rw [nameWitnesses_aligned]
  exact List.mem_map.mpr ⟨(r, c), List.mem_flatMap.mpr ⟨r, hr, List.mem_map.mpr ⟨c, hc, rfl⟩⟩, rfl⟩

/-- for every rule of the regenerated table the allowed-child query is true of exactly the names that occur in some valid
    child sequence: "only if" through the witnesses above and C01, "if" is `C17_allowed_of_occurs` -/
theorem C17_allowed_iff (r : Rule) (hr : r ∈ Gen.rules) (c : String) :
    isAllowedChild r.children c = true ↔ ∃ w, Lang true (isMixed Gen.mixedRules r) r.children w ∧ c ∈ w := by
  constructor
  · intro h
    have hc : c ∈ r.children.names := List.contains_iff_mem.mp h
    obtain ⟨t, ht, hte⟩ := List.mem_map.mp (C17_witnesses_cover r hr c hc)
    obtain ⟨r', hr', hn, hmem, hacc⟩ := C17_witnesses_accepted t ht
    simp only [Prod.mk.injEq] at hte
    -- rule names are unique keys, so the rule found for the witness is `r`
    obtain rfl : r' = r := eq_of_mem_of_nodup_map Rule.name (l := Gen.rules) C10_keys_unique.2 hr' hr (hn.trans hte.1)
    refine ⟨t.2.2, ?_, hte.2 ▸ hmem⟩
    exact (C01_accept_iff r'.children (C01_table_wf r' hr') "x" (by decide) _ _).mp hacc
  · rintro ⟨w, hl, hc⟩
    exact C17_allowed_of_occurs _ _ c w hl hc

-- `huniq` is `C10_keys_unique.2`, which `C17_allowed_iff` supplies itself
set_option linter.unusedVariables false in
theorem C17_allowed_iff_table (r : Rule) (hr : r ∈ Gen.rules) (c : String)
    (huniq : ∀ r' ∈ Gen.rules, r'.name = r.name → r' = r) :
    isAllowedChild r.children c = true ↔ ∃ w, Lang true (isMixed Gen.mixedRules r) r.children w ∧ c ∈ w :=
  C17_allowed_iff r hr c

/-- whenever SOME insertion position makes the child sequence a word of the rule's language, the suggested
    position is one that does (and the query neither refuses nor fails).  `insAt c j xs` is `list.insert(j, c)`. -/
theorem C17_restores (M : Bool) (s : Spec) (hw : wfTop s = true) (xs : List String) (c : String) (j : Nat)
    (hj : j ≤ xs.length) (hl : Lang true M s (insAt c j xs)) :
    ∃ i, childInsertIndex s xs c = .ok i ∧ i ≤ xs.length ∧ Lang true M s (insAt c i xs) := by
  obtain ⟨u, v, hxs, hins⟩ := insAt_split c j xs hj
  rw [hins] at hl
  have hsub := Lang_names_sub true M s _ hl
  obtain ⟨r, hr⟩ := idxOf_some_of_mem s.names c (hsub c (List.mem_append_right _ List.mem_cons_self))
  obtain ⟨i, h1, h2, h3⟩ := scan_insBy s.names c r hr xs 0 (fun x hx => hsub x (mem_insert_mid (hxs ▸ hx)))
  refine ⟨i, by simp only [childInsertIndex, hr]; simpa using h1, h2, ?_⟩
  rw [h3, hxs]
  -- a spec of the class is a sequence of items whose names are ranked in increasing order
  obtain ⟨hnd, items, hwi, hnm, -, hlang⟩ := wfTop_seq hw
  rw [hlang] at hl ⊢
  exact restore_items (rankIn s.names) M items hwi (hnm ▸ rankIn_pairwise s.names hnd) u v c hl

/-- the same for every rule of the regenerated table (each is in the class, `C01_table_wf`) -/
theorem C17_restores_table (r : Rule) (hr : r ∈ Gen.rules) (xs : List String) (c : String) (j : Nat)
    (hj : j ≤ xs.length) (hl : Lang true (isMixed Gen.mixedRules r) r.children (insAt c j xs)) :
    ∃ i, childInsertIndex r.children xs c = .ok i ∧ i ≤ xs.length ∧
      Lang true (isMixed Gen.mixedRules r) r.children (insAt c i xs) :=
  C17_restores _ r.children (C01_table_wf r hr) xs c j hj hl

/-- … and through C01: if some position makes the real validator accept, the suggested one does -/
theorem C17_restores_validator (r : Rule) (hr : r ∈ Gen.rules) (n : String) (hn : n ≠ "metadata")
    (xs : List String) (c : String) (j : Nat) (hj : j ≤ xs.length)
    (hacc : validateChildren n (isMixed Gen.mixedRules r) r.children (insAt c j xs) = []) :
    ∃ i, childInsertIndex r.children xs c = .ok i ∧
      validateChildren n (isMixed Gen.mixedRules r) r.children (insAt c i xs) = [] := by
  have hwf := C01_table_wf r hr
  obtain ⟨i, h1, _, h3⟩ := C17_restores_table r hr xs c j hj ((C01_accept_iff r.children hwf n hn _ _).mp hacc)
  exact ⟨i, h1, (C01_accept_iff r.children hwf n hn _ _).mpr h3⟩

/-- an instance of the premise of `C17_restores`: what inserting `givenName` at position 1 gives -/
example : insAt "givenName" 1 ["salutation", "surName"] = ["salutation", "givenName", "surName"] := by decide

/-- … and position 1 is what `child_insert_index` suggests there -/
example : childInsertIndex (.seq [.leaf "salutation" 0 none, .leaf "givenName" 0 none, .leaf "surName" 1 (some 1)])
    ["salutation", "surName"] "givenName" = .ok 1 := by decide

end Metapype
