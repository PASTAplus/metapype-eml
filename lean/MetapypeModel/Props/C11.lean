import MetapypeModel.Gen.WriteSites
import MetapypeModel.Model.Validate
import MetapypeModel.Model.Evaluate
import MetapypeModel.Model.Json
import MetapypeModel.Model.Xml
import MetapypeModel.Model.Query
import MetapypeModel.Model.Equal
/-
  C11 — read-only operations never modify the tree.

  In the Lean model every read-only operation is a function from the tree VALUE to a result
  (`collectTree`, `evalTree`, `serialize`, `toXmlG`, `toXmlE`, the queries, `childInsertIndex`,
  `isEqual`): it cannot return a changed tree, so the frame statement is thin by design.  What gives it
  teeth is the tie to the code: (1) the write-site inventory regenerated from the source on every run —
  every statement in the functions reachable from the read-only entry points that can write to a
  non-local object — must contain no site classified `tree` (theorem below, `decide` over the whole
  inventory); (2) the deep-snapshot correspondence of the harness.
-/
namespace Metapype

/-- no statement reachable from a read-only entry point writes to an object of the tree or the registry:
    every inventoried write goes to a fresh local, to the own fields of a non-tree object of the package (the per-call
    `Rule` object, a private helper object), to a collector owned by the caller, or to a module-level cache object -/
theorem C11_no_tree_write_site : ∀ s ∈ Gen.writeSites, s.2.2.2.2 ≠ "tree" := by decide +kernel

/-- the inventory is not vacuous: it starts from the public read-only entry points (validation, evaluation, both exporters,
    the JSON codec, the queries, the comparison) and reaches a substantial part of the package from them (private helpers are
    found by reachability, not listed by name: renaming or splitting them does not change this statement) -/
theorem C11_inventory_covers :
    (∀ x ∈ [("eml/validate.py", "tree"), ("eml/validate.py", "node"), ("eml/rule.py", "Rule.validate_rule"),
            ("eml/rule.py", "Rule.child_insert_index"), ("eml/evaluate.py", "tree"), ("eml/evaluate.py", "node"),
            ("eml/export.py", "to_xml"), ("model/metapype_io.py", "to_json"), ("model/metapype_io.py", "to_xml"),
            ("model/metapype_io.py", "graph"), ("model/node.py", "Node.is_equal"), ("model/node.py", "Node.find_all_descendants"),
            ("model/node.py", "Node.find_all_nodes_by_path")], x ∈ Gen.readOnlyFunctions) ∧
    60 ≤ Gen.readOnlyFunctions.length := by decide +kernel

/-- one read-only operation; each is a function of the tree value alone -/
inductive ReadOp where
  | validate | evaluate | toJson | legacyToJson | toXml | emlToXml | findDescendant (x : String) | findAllByPath (p : List String)
  | isEqualSelfCopy

inductive ReadRes where
  | events (l : List PEv)
  | warnings (l : List (String × List Nat))
  | json (j : J)
  | text (s : List Char)
  | node (o : Option Tree)
  | nodes (l : List Tree)
  | bool (b : Bool)

def runRead (L : Lexer) (T : Tables) (t : Tree) : ReadOp → ReadRes
  | .validate => .events (collectTree L T t)
  | .evaluate => .warnings (evalTree none t [])
  | .toJson => .json (serialize t)
  | .legacyToJson => .json (legacySerialize t)
  | .toXml => .text (toXmlG t none 0)
  | .emlToXml => .text (toXmlE t 0)
  | .findDescendant x => .node (findDescendant x t)
  | .findAllByPath p => .nodes (findAllByPath p t)
  | .isEqualSelfCopy => .bool (isEqual t t)

/-- the state after any history of read-only operations is the tree it started from -/
def stateAfter (t : Tree) (_ops : List ReadOp) : Tree := t

/-- results do not depend on which read-only operations ran before (frame / order-independence in the model) -/
theorem C11_order_free (L : Lexer) (T : Tables) (t : Tree) (before : List ReadOp) (op : ReadOp) :
    runRead L T (stateAfter t before) op = runRead L T t op := rfl

end Metapype
