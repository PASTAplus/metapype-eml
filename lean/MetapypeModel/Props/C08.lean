import MetapypeModel.Props.C07
import MetapypeModel.Props.C20
import MetapypeModel.Lemmas.RoundTripNode
import MetapypeModel.Lemmas.Words
/-
  C08 — XML import mirrors the document; import-export-import is stable.
  The model starts from the infoset lxml hands over (Model/Import.lean); the theorems are for every
  infoset, every text and all four clean/collapse combinations.  `C08_export_import` composes the whole chain
  export → XML grammar → namespace processing (Model/NsResolve.lean, a model of lxml validated against lxml) → import.
-/
namespace Metapype

def XN.localName? : XN → Option String
  | .elem ln .. => some ln
  | .comment _ => none

/-- comments are dropped and every element child yields exactly one node, in document order -/
theorem C08_children_mirror (clean collapse : Bool) (literals : List String) (pns : Dict) : ∀ (kids : List XN),
    (processKids clean collapse literals pns kids).map Tree.name = kids.filterMap XN.localName? := by
  intro kids
  induction kids with
  | nil => rfl
  | cons k ks ih =>
    rw [List.filterMap_cons, ← ih, processKids]
    -- a comment yields no node and has no name; an element yields one node, which carries its local name
    cases k <;> rfl

/-- one element: local name, prefix and in-scope prefixed bindings are taken over as they are; in raw mode text and
    tail are the document's (with the text that follows skipped comments folded in) -/
theorem C08_mirror_raw (collapse : Bool) (literals : List String) (ln : String) (pfx : Option String) (ns : Dict)
    (att : List (String × String)) (tx tl : Option String) (kids following : List XN) :
    (processElement false collapse literals (.elem ln pfx ns att tx tl kids) following).map
        (fun t => (t.name, t.pfx, t.nsmap, t.content, t.tail)) =
      some (ln, pfx, ns, withCommentTails tx kids, withCommentTails tl following) := by
  rw [processElement]
  rfl

/-- clean mode applies the documented policy to exactly those two texts -/
theorem C08_mirror_clean (collapse : Bool) (literals : List String) (ln : String) (pfx : Option String) (ns : Dict)
    (att : List (String × String)) (tx tl : Option String) (kids following : List XN) :
    (processElement true collapse literals (.elem ln pfx ns att tx tl kids) following).map
        (fun t => (t.name, t.pfx, t.nsmap, t.content, t.tail)) =
      some (ln, pfx, ns, cleanText collapse (literals.contains ln) (withCommentTails tx kids),
            cleanText collapse false (withCommentTails tl following)) := by
  rw [processElement]
  rfl

/-- text that follows a comment belongs to the text before it -/
theorem C08_comment_tail (tx : Option String) (c : String) (rest : List XN) :
    withCommentTails tx (.comment (some c) :: rest) = withCommentTails (some (tx.getD "" ++ c)) rest := rfl

theorem pyStrip_pad (w₁ s w₂ : List Char) (h1 : w₁.all pyIsSpace = true) (h2 : w₂.all pyIsSpace = true) :
    pyStrip (w₁ ++ s ++ w₂) = pyStrip s := by
  rw [pyStrip_eq, pyStrip_eq, trim_pad w₁ s w₂ h1 h2]

theorem pyStrip_all_space {s : List Char} (h : s.all pyIsSpace = true) : pyStrip s = [] := by
  rw [pyStrip_eq, trim_eq_nil h]

theorem pyStrip_nil_iff (s : List Char) : pyStrip s = [] ↔ wsWords s = [] :=
  ⟨fun h => by rw [← wsWords_pyStrip, h]; rfl, fun h => pyStrip_all_space ((wsWords_nil_iff s).mp h)⟩

/-- outside literal elements and blank-only texts, a cleaned text is non-empty and has no leading or trailing white space -/
theorem C08_clean_trimmed (s r : String) (hb : isBlankKeep s.toList = false) (h : cleanText false false (some s) = some r) :
    r.toList ≠ [] ∧ (∀ c, r.toList.head? = some c → pyIsSpace c = false) ∧ (∀ c, r.toList.getLast? = some c → pyIsSpace c = false) := by
  simp only [cleanText, Bool.false_eq_true, if_false, hb] at h
  split at h
  · cases h
  · rename_i hne
    simp only [Option.some.injEq] at h
    subst h
    simp only [String.toList_ofList]
    refine ⟨by simpa using hne, (pyStrip_ends s.toList).1, (pyStrip_ends s.toList).2⟩

/-- text consisting only of white space (and not only of blanks/tabs/NBSP) becomes None -/
theorem C08_clean_whitespace_only (collapse : Bool) (s : String) (hb : isBlankKeep s.toList = false)
    (hall : s.toList.all pyIsSpace = true) : cleanText collapse false (some s) = none := by
  simp only [cleanText, Bool.false_eq_true, if_false, hb]
  simp [pyStrip_all_space hall]

/-- literal elements and blank-only texts are kept verbatim -/
theorem C08_clean_kept (collapse : Bool) (s : String) :
    cleanText collapse true (some s) = some s ∧ (isBlankKeep s.toList = true → cleanText collapse false (some s) = some s) := by
  constructor
  · simp [cleanText]
  · intro h; simp [cleanText, h]

/-- with collapsing, a cleaned text (outside literal elements and blank-only texts) is the words of the original text — the
    maximal runs of non-white-space characters, all of them, in order — separated by single spaces -/
theorem C08_collapse_words (s r : String) (hb : isBlankKeep s.toList = false) (h : cleanText true false (some s) = some r) :
    r.toList = joinSp (wsWords s.toList) ∧ wsWords r.toList = wsWords s.toList := by
  simp only [cleanText, Bool.false_eq_true, if_false, hb, if_true] at h
  split at h
  · cases h
  · simp only [Option.some.injEq] at h
    subst h
    simp only [String.toList_ofList]
    exact ⟨by unfold collapseWs; rw [pyWordsOf_eq], wsWords_collapseWs s.toList⟩

theorem isBlankKeep_all_space (s : List Char) (h : isBlankKeep s = true) : s.all pyIsSpace = true := by
  rw [isBlankKeep, Bool.and_eq_true] at h
  refine List.all_eq_true.mpr fun c hc => ?_
  have := List.all_eq_true.mp h.2 c hc
  simp only [Bool.or_eq_true, beq_iff_eq] at this
  rcases this with (rfl | rfl) | rfl <;> decide

theorem cleanText_collapse (s : String) : cleanText true false (some s) =
    if isBlankKeep s.toList then some s else if wsWords s.toList = [] then none
    else some (String.ofList (collapseWs s.toList)) := by
  simp only [cleanText, Bool.false_eq_true, if_false, if_true, List.isEmpty_iff, pyStrip_nil_iff]

/-- the clean-mode policy with collapsing is idempotent on every text: cleaning a cleaned text changes nothing, so
    import → export → import is stable in collapse mode as well -/
theorem C08_collapse_idempotent (x : Option String) :
    cleanText true false (cleanText true false x) = cleanText true false x := by
  cases x with
  | none => rfl
  | some s =>
    rw [cleanText_collapse s]
    by_cases hb : isBlankKeep s.toList = true
    · rw [if_pos hb, cleanText_collapse s, if_pos hb]
    · by_cases hw : wsWords s.toList = []
      · rw [if_neg hb, if_pos hw]
        rfl
      · -- the collapsed text has the same words, and there is one: so it is not blank-only either
        have hw' : ¬ wsWords (collapseWs s.toList) = [] := by rwa [wsWords_collapseWs]
        have hb' : ¬ isBlankKeep (collapseWs s.toList) = true := fun hk =>
          hw' ((wsWords_nil_iff _).mpr (isBlankKeep_all_space _ hk))
        rw [if_neg hb, if_neg hw, cleanText_collapse, String.toList_ofList, if_neg hb', if_neg hw', collapseWs_idem]

/-- stability of the policy under the white space an exporter adds around a text: re-cleaning a padded, already
    cleaned (trimmed) text gives the same text back -/
theorem C08_stable_text (w₁ w₂ : List Char) (st : String) (h1 : w₁.all pyIsSpace = true) (h2 : w₂.all pyIsSpace = true)
    (hne : st.toList ≠ []) (hfix : pyStrip st.toList = st.toList) :
    cleanText false false (some (String.ofList (w₁ ++ st.toList ++ w₂))) = some st := by
  have hnb : isBlankKeep (w₁ ++ st.toList ++ w₂) = false := by
    -- the trimmed text starts with a non-space character, so the padded text is not blank-only
    obtain ⟨c, cs, hs⟩ := List.exists_cons_of_ne_nil hne
    have hc : pyIsSpace c = false := (pyStrip_ends st.toList).1 c (by rw [hfix, hs]; rfl)
    refine Bool.eq_false_iff.mpr fun hk => ?_
    have := List.all_eq_true.mp (isBlankKeep_all_space _ hk) c (by simp [hs])
    rw [hc] at this
    cases this
  simp only [cleanText, Bool.false_eq_true, if_false, String.toList_ofList, hnb, pyStrip_pad w₁ st.toList w₂ h1 h2, hfix]
  rw [if_neg (by simpa using hne)]
  simp

/-- and an absent text stays absent: white space alone (containing a newline, as every exporter indentation does) is dropped -/
theorem C08_stable_none (w : String) (hall : w.toList.all pyIsSpace = true) (hnl : '\n' ∈ w.toList) :
    cleanText false false (some w) = none := by
  apply C08_clean_whitespace_only false w _ hall
  simp only [isBlankKeep, Bool.and_eq_false_iff, Bool.not_eq_false', List.all_eq_false]
  right
  exact ⟨'\n', hnl, by decide⟩

/-- unqualified names are left alone -/
theorem C08_format_plain (name : String) (ns : Dict) (h : splitClark name.toList = none) : formatExtras name ns = name := by
  simp [formatExtras, h]

/-- `{uri}local` with the XML namespace and no prefix bound to it becomes `xml:local` -/
theorem C08_format_xml (name : String) (target : List Char) (ns : Dict)
    (h : splitClark name.toList = some (xmlNamespace.toList, target)) (hn : ∀ kv ∈ ns, kv.2 ≠ xmlNamespace) :
    formatExtras name ns = "xml:" ++ String.ofList target := formatExtras_xml name target ns h hn

/-- `{uri}local` becomes `p:local` for a prefix `p` that is bound to `uri` in scope, whenever there is one -/
theorem C08_format_bound (name : String) (uri target : List Char) (ns : Dict)
    (h : splitClark name.toList = some (uri, target)) (hb : ∃ kv ∈ ns, kv.2 = String.ofList uri) :
    ∃ kv ∈ ns, kv.2 = String.ofList uri ∧ formatExtras name ns = kv.1 ++ ":" ++ String.ofList target :=
  formatExtras_bound name uri target ns h hb

/-- non-vacuity / instances of the Clark-name split, incl. a URI that itself contains `}` -/
example : splitClark "{urn:a}b".toList = some ("urn:a".toList, "b".toList) ∧ splitClark "plain".toList = none ∧
          splitClark "{u}x}y".toList = some ("u}x".toList, "y".toList) := by
  repeat rw [String.toList_ofList]
  decide +kernel

/-- **What the exporter writes denotes an XML value whose import is the tree again** (`RT`): same names, prefixes, attributes and
    extras, the same namespace bindings on every node (as maps), children in order, content and tail up to surrounding white
    space; ids are not compared.  (`Den` is a relation: that the document has no second denotation is not part of the statement.)
    `TreeHyp` (Lemmas/RoundTripNode.lean) is syntactic: names without colon, extras keys of the form `prefix:local` with the
    prefix bound on the node (or `xml`), namespace maps with unique keys that include the parent's bindings, distinct
    prefixes bound to distinct namespace names, none of them the XML namespace name.
    The chain is: `toXmlG` (the exporter, char-exact model) — `Den` (XML grammar) — `resolveX` (lxml's namespace
    processing) — `processElement` (the importer, raw mode). -/
theorem C08_export_import (t : Tree) (hl : Legal t none) (hroot : t.tail = none) (h : TreeHyp none t) :
    ∃ x, DocDen (toXmlG t none 0) x ∧
      ∃ t', processElement false false [] (resolveX [] x []) [] = some t' ∧ RT t' t ∧ t'.tail = none :=
  ⟨xElemG t none 0, C07_general_wellformed t hl hroot, export_import t h⟩

-- (an instance of the chain is evaluated by the driver op `exportimport` on every tree of the C07 check and compared with
-- the real `from_xml(to_xml(tree), clean=False)`)

end Metapype
