import MetapypeModel.Lemmas.ForestAcyclic
import MetapypeModel.Lemmas.QueryLemmas
/-
  C09 — edit histories keep an ordered tree; queries observe exactly that tree.
  Edits: object-level model `step` (Model/Forest.lean); for every forest, every operation and every
  history (induction over the operation list).  Queries: code-shaped definitions (Model/Query.lean)
  proved equal to declarative ones over the document order of the ordered tree.
-/
namespace Metapype

/-- every listed child's parent link names the node that lists it; no node is listed twice -/
def Inv (F : Forest) : Prop :=
  (∀ p c, c ∈ F.kids p → F.parent c = some p) ∧ (∀ p, (F.kids p).Nodup)

/-- the property's hypothesis: a node is attached only while no node lists it -/
def Attachable (F : Forest) : Op → Prop
  | .append _ c => ∀ q, c ∉ F.kids q
  | .insert _ c _ => ∀ q, c ∉ F.kids q
  | .replace _ _ new => ∀ q, new ∉ F.kids q
  | _ => True

/-- the ordered-list model of the edited node's child list -/
theorem C09_list_model_append (F : Forest) (p c : Nat) : (step F (.append p c)).1.kids p = F.kids p ++ [c] :=
  if_pos rfl

theorem C09_list_model_insert (F : Forest) (p c : Nat) (i : Int) :
    (step F (.insert p c i)).1.kids p =
      (F.kids p).take (pyInsertPos (F.kids p).length i) ++ c :: (F.kids p).drop (pyInsertPos (F.kids p).length i) ∧
    pyInsertPos (F.kids p).length i ≤ (F.kids p).length :=
  ⟨if_pos rfl, pyInsertPos_le _ i⟩

theorem C09_list_model_remove (F : Forest) (p c : Nat) (h : c ∈ F.kids p) :
    (step F (.remove p c)).1.kids p = (F.kids p).erase c ∧ (step F (.remove p c)).2 = .none := by
  rw [step, if_pos h]
  exact ⟨if_pos rfl, rfl⟩

theorem C09_list_model_replace (F : Forest) (p old new i : Nat) (hn : F.name new = F.name old)
    (hi : indexOf? old (F.kids p) = some i) :
    (step F (.replace p old new)).1.kids p = (F.kids p).set i new ∧ (step F (.replace p old new)).1.parent new = some p := by
  simp only [step, hn, hi, ne_eq, not_true_eq_false, if_false]
  exact ⟨if_pos rfl, if_pos rfl⟩

theorem C09_list_model_clear (F : Forest) (p : Nat) : (step F (.clear p)).1.kids p = [] :=
  if_pos rfl

/-- shift never fails for a listed child and returns the child's actual new index -/
theorem C09_shift_index (F : Forest) (p c : Nat) (d : Dir) (sib : Bool) (h : c ∈ F.kids p) :
    ∃ j, (step F (.shift p c d sib)).2 = .index j ∧ ((step F (.shift p c d sib)).1.kids p)[j]? = some c := by
  obtain ⟨i, hi⟩ := indexOf?_isSome_of_mem c (F.kids p) h
  have hget := indexOf?_some_getElem? c (F.kids p) i hi
  rcases step_shift F p c d sib hi with e | ⟨j, hj, e⟩
  · rw [e]
    exact ⟨i, rfl, hget⟩
  · rw [e]
    exact ⟨j, rfl, by rw [Forest.kids_setKids, if_pos rfl]; exact swapAt_get_j _ _ _ _ hget hj⟩

/-- a node is never attached to itself or below itself (`add_child` does not check this; a history that does it builds a
    structure that contains itself, on which every recursive operation of the library diverges) -/
def NoSelfAttach (F : Forest) : Op → Prop
  | .append p c => c ≠ p ∧ ¬ Desc F c p
  | .insert p c _ => c ≠ p ∧ ¬ Desc F c p
  | .replace p _ new => new ≠ p ∧ ¬ Desc F new p
  | _ => True

def Op.target : Op → Nat
  | .append p _ => p
  | .insert p _ _ => p
  | .remove p _ => p
  | .replace p _ _ => p
  | .shift p _ _ _ => p
  | .clear p => p

/-- Every edit leaves the forest alone, or replaces one child list by a rearrangement of some of its members
    (`remove`, `shift`, `clear`), or by such a rearrangement with one node `c` added, whose parent link it sets
    (`append`, `insert`, `replace`); `c` is the node the hypotheses `Attachable` and `NoSelfAttach` speak of.
    Only an edit of the first kind can fail. -/
theorem step_cases {motive : Forest × Out → Prop} (F : Forest) (op : Op) (same : ∀ o, motive (F, o))
    (rearrange : ∀ l l₀ o, o ≠ .valueError → l.Perm l₀ → l₀.Sublist (F.kids op.target) → motive (F.setKids op.target l, o))
    (attach : ∀ c l l₀, (Attachable F op → ∀ q, c ∉ F.kids q) → (NoSelfAttach F op → c ≠ op.target ∧ ¬ Desc F c op.target) →
      l.Perm (c :: l₀) → l₀.Sublist (F.kids op.target) → motive ((F.setKids op.target l).setParent c op.target, .none)) :
    motive (step F op) := by
  cases op with
  | append p c => exact attach c _ _ id id (List.perm_append_singleton c _) (List.Sublist.refl _)
  | insert p c i => exact attach c _ _ id id (insertAt_perm _ _ c) (List.Sublist.refl _)
  | remove p c =>
    rw [step]
    split
    · exact rearrange _ _ _ nofun (List.Perm.refl _) List.erase_sublist
    · exact same _
  | replace p old new =>
    simp only [step]
    split
    · exact same _
    · split
      · exact same _
      · rename_i i hi
        have hlt := (List.getElem?_eq_some_iff.mp (indexOf?_some_getElem? old _ i hi)).1
        exact attach new _ _ id id (set_perm_cons_eraseIdx hlt new) (List.eraseIdx_sublist _ i)
  | shift p c d sib =>
    cases hi : indexOf? c (F.kids p) with
    | none =>
      simp only [step, hi]
      exact same _
    | some i =>
      rcases step_shift F p c d sib hi with e | ⟨j, _, e⟩
      · rw [e]
        exact same _
      · rw [e]
        exact rearrange _ _ _ nofun (swapAt_perm _ i j) (List.Sublist.refl _)
  | clear p => exact rearrange [] [] _ nofun (List.Perm.refl _) (List.nil_sublist _)

/-- a failing edit leaves the tree unchanged -/
theorem C09_failing_edit_noop (F : Forest) (op : Op) (h : (step F op).2 = .valueError) : (step F op).1 = F :=
  step_cases (motive := fun r => r.2 = .valueError → r.1 = F) F op
    (same := fun _ _ => rfl)
    (rearrange := fun _ _ _ ho _ _ h => absurd h ho)
    (attach := fun _ _ _ _ _ _ _ h => nomatch h) h

/-- an edit changes no other node's child list (frame) -/
theorem C09_other_lists_unchanged (F : Forest) (op : Op) (q : Nat) (hq : q ≠ op.target) : (step F op).1.kids q = F.kids q :=
  step_cases (motive := fun r => r.1.kids q = F.kids q) F op
    (same := fun _ => rfl)
    (rearrange := fun _ _ _ _ _ _ => if_neg hq)
    (attach := fun _ _ _ _ _ _ _ => if_neg hq)

theorem Inv.setKids {F : Forest} (hi : Inv F) {p : Nat} {l l₀ : List Nat} (hl : l.Perm l₀) (h₀ : l₀.Sublist (F.kids p)) :
    Inv (F.setKids p l) := by
  refine ⟨fun q x hx => hi.1 q x (Forest.mem_kids_rearrange hl h₀ hx), fun q => ?_⟩
  rw [Forest.kids_setKids]
  split
  · exact hl.nodup_iff.mpr ((hi.2 p).sublist h₀)
  · exact hi.2 q

theorem Inv.attach {F : Forest} (hi : Inv F) {p c : Nat} {l l₀ : List Nat} (hc : ∀ q, c ∉ F.kids q)
    (hl : l.Perm (c :: l₀)) (h₀ : l₀.Sublist (F.kids p)) : Inv ((F.setKids p l).setParent c p) := by
  refine ⟨fun q x hx => ?_, fun q => ?_⟩
  · rw [Forest.parent_setParent]
    rcases Forest.mem_kids_attach hl h₀ hx with h | ⟨rfl, rfl⟩
    · rw [if_neg (fun e : x = c => hc q (e ▸ h))]
      exact hi.1 q x h
    · exact if_pos rfl
  · rw [Forest.kids_setParent, Forest.kids_setKids]
    split
    · exact hl.nodup_iff.mpr (List.nodup_cons.mpr ⟨fun h => hc p (h₀.subset h), (hi.2 p).sublist h₀⟩)
    · exact hi.2 q

theorem C09_inv_step (F : Forest) (op : Op) (hi : Inv F) (ha : Attachable F op) : Inv (step F op).1 :=
  step_cases (motive := fun r => Inv r.1) F op
    (same := fun _ => hi)
    (rearrange := fun _ _ _ _ => hi.setKids)
    (attach := fun _ _ _ hc _ => hi.attach (hc ha))

/-- a history in which every attach meets the hypothesis when it happens -/
def Admissible : Forest → List Op → Prop
  | _, [] => True
  | F, op :: ops => Attachable F op ∧ Admissible (step F op).1 ops

theorem C09_inv_hist : ∀ (ops : List Op) (F : Forest), Inv F → Admissible F ops → Inv (ops.foldl (fun G op => (step G op).1) F) := by
  intro ops
  induction ops with
  | nil => exact fun _ hi _ => hi
  | cons op ops ih => exact fun F hi ha => ih _ (C09_inv_step F op hi ha.1) ha.2

/-- non-vacuity: the empty forest meets the invariant and a 4-step history is admissible -/
example : Inv { name := fun _ => "a", kids := fun _ => [], parent := fun _ => none } :=
  ⟨fun p c h => by simp at h, fun p => List.nodup_nil⟩
example : Admissible { name := fun _ => "a", kids := fun _ => [], parent := fun _ => none }
    [.append 0 1, .insert 0 2 (-1), .shift 0 1 .left true, .remove 0 1] := by
  simp [Admissible, Attachable, step, Forest.setKids, Forest.setParent]

theorem C09_acyclic_step (F : Forest) (op : Op) (ha : Acyclic F) (hs : NoSelfAttach F op) : Acyclic (step F op).1 :=
  step_cases (motive := fun r => Acyclic r.1) F op
    (same := fun _ => ha)
    (rearrange := fun _ _ _ _ => ha.setKids)
    (attach := fun _ _ _ _ hc => ha.attach (hc hs).1 (hc hs).2)

def NoSelfAttachHist : Forest → List Op → Prop
  | _, [] => True
  | F, op :: ops => NoSelfAttach F op ∧ NoSelfAttachHist (step F op).1 ops

theorem C09_acyclic_hist : ∀ (ops : List Op) (F : Forest), Acyclic F → NoSelfAttachHist F ops →
    Acyclic (ops.foldl (fun G op => (step G op).1) F) := by
  intro ops
  induction ops with
  | nil => exact fun _ ha _ => ha
  | cons op ops ih => exact fun F ha hs => ih _ (C09_acyclic_step F op ha hs.1) hs.2

/-- the hypothesis cannot be dropped: attaching a root below its own child yields a node that is its own descendant -/
example : ¬ Acyclic (step (step { name := fun _ => "a", kids := fun _ => [], parent := fun _ => none } (.append 0 1)).1 (.append 1 0)).1 := by
  intro h
  exact h 0 (Desc.step (m := 1) (by decide) (Desc.kid (by decide)))

theorem Tree.name_mk (i n : String) (c tl p : Option String) (a e ns : Dict) (ks : List Tree) :
    (Tree.mk i n c tl p a e ns ks).name = n := rfl

theorem findDescendantL_spec (x : String) : ∀ (cs : List Tree), findDescendantL x cs = (Tree.preorderL cs).find? (fun c => c.name == x) :=
  (findDescendant_both x).2

/-- first descendant in document order -/
theorem C09_find_descendant (x : String) (t : Tree) :
    findDescendant x t = (Tree.preorder t).tail.find? (fun c => c.name == x) := by
  rw [(findDescendant_both x).1, Tree.preorder_eq]
  rfl

theorem findAllDescendantsL_spec (x : String) : ∀ (cs : List Tree) (acc : List Tree),
    findAllDescendantsL x cs acc = acc ++ (Tree.preorderL cs).filter (fun c => c.name == x) :=
  (findAllDescendants_both x).2

/-- all descendants in document order, appended to the caller's list without disturbing it -/
theorem C09_find_all_descendants (x : String) (t : Tree) (acc : List Tree) :
    findAllDescendants x t acc = acc ++ (Tree.preorder t).tail.filter (fun c => c.name == x) := by
  rw [(findAllDescendants_both x).1, Tree.preorder_eq]
  rfl

/-- single-node-by-path, when it finds something, returns the first of all-nodes-by-path -/
theorem C09_single_is_head_of_all (path : List String) (t : Tree) (m : Tree)
    (h : findSingleByPath path t = some m) : (findAllByPath path t).head? = some m := by
  unfold findSingleByPath at h
  unfold findAllByPath
  split at h
  · cases h
  · rename_i hp
    rw [if_neg hp]
    exact path_fold_head path (some t) [t] (fun n hn => by simpa using hn) m h

/-- first / all children by name are `find?` / `filter` over the ordered child list (definitional) -/
theorem C09_children_queries (x : String) (t : Tree) :
    findChild x t = t.children.find? (fun c => c.name == x) ∧ findAllChildren x t = t.children.filter (fun c => c.name == x) :=
  ⟨rfl, rfl⟩

/-- `child_index`: the position of the first child with that identity, `None` when it is not a child -/
theorem C09_child_index (t : Tree) (cid : String) :
    childIndex t cid = t.children.findIdx? (fun c => c.id == cid) :=
  childIndex_go_eq cid t.children 0

def ParentChain (F : Forest) : List Nat → Prop
  | [] => True
  | [_] => True
  | a :: b :: r => F.parent b = some a ∧ ParentChain F (b :: r)

theorem ancestryAux_chain (F : Forest) (fuel n : Nat) (acc : List Nat) (h : ParentChain F (n :: acc)) :
    ParentChain F (ancestryAux F (fuel + 1) n acc) ∧ (ancestryAux F (fuel + 1) n acc).getLast? = (n :: acc).getLast? := by
  induction fuel generalizing n acc with
  | zero =>
    rw [ancestryAux]
    cases F.parent n <;> exact ⟨h, rfl⟩
  | succ fuel ih =>
    rw [ancestryAux]
    cases hp : F.parent n with
    | none => exact ⟨h, rfl⟩
    | some p =>
      obtain ⟨h1, h2⟩ := ih p (n :: acc) ⟨hp, h⟩
      exact ⟨h1, h2.trans List.getLast?_cons_cons⟩

/-- `get_ancestry`: the returned list is a chain of parent links that ends in the node itself -/
theorem C09_ancestry (F : Forest) (fuel n : Nat) (hf : fuel ≠ 0) :
    ParentChain F (ancestry F fuel n) ∧ (ancestry F fuel n).getLast? = some n := by
  obtain ⟨f, rfl⟩ := Nat.exists_eq_succ_of_ne_zero hf
  exact ancestryAux_chain F f n [] trivial

end Metapype
