import MetapypeModel.Lemmas.NsVisible
import MetapypeModel.Lemmas.NsFix
/-
  C13 — namespace operations stay inside the subtree they are applied to.
  Stated on the heap model with shared dict cells (Model/NsHeap.lean), for EVERY heap — arbitrary
  sharing of dict objects between arbitrary nodes is allowed; the only well-formedness needed is that
  references in use were allocated (`RefsOK`).  `fuel` is the recursion budget; the isolation theorems
  hold for every fuel.  The visibility theorems (`C13_declare_visible`, `C13_remove_visible`,
  `C13_attach_visible`) say what the operation achieves inside the subtree: they too hold for every
  heap and every sharing pattern (they do not even need `RefsOK`), for every node the recursion budget reaches
  (`ReachIn`; Python's recursion is unbounded, so every node of a finite subtree - `C13_declare_visible_subtree`).
-/
namespace Metapype

def RefsOK (H : NsHeap) : Prop := ∀ m, H.ns m < H.next

/-- declaring (or re-declaring) a prefix on `n` changes the bindings seen on no node outside the subtree of `n` -/
theorem C13_declare_isolated (fuel : Nat) (H : NsHeap) (hr : RefsOK H) (n : Nat) (p u : String) (m : Nat)
    (hm : ¬ Reach H.kids n m) : (addNs fuel H n p u none).nsmapOf m = H.nsmapOf m :=
  nsmapOf_unchanged hr (addNs_framed H.next p u fuel H n none (Nat.le_refl _) nofun) hm

/-- removing a prefix on `n` changes the bindings seen on no node outside the subtree of `n` -/
theorem C13_remove_isolated (fuel : Nat) (H : NsHeap) (hr : RefsOK H) (n : Nat) (p : String) (m : Nat)
    (hm : ¬ Reach H.kids n m) : (removeNs fuel H n p none).nsmapOf m = H.nsmapOf m :=
  nsmapOf_unchanged hr (removeNs_framed H.next p fuel H n none (Nat.le_refl _) nofun) hm

/-- attaching `c` under `par` changes the bindings seen on no node outside the subtree of `c`
    (in particular not on `par`, its ancestors, or `c`'s new siblings) -/
theorem C13_attach_isolated (fuel : Nat) (H : NsHeap) (hr : RefsOK H) (par c m : Nat)
    (hm : ¬ Reach (withChild H par c).kids c m) : (attachNs fuel H par c).nsmapOf m = H.nsmapOf m := by
  rw [attachNs_eq]
  split
  · -- the child now shares the parent's dict object: only the child itself is re-pointed
    have hmc : m ≠ c := fun h => hm (h ▸ Reach.refl _)
    simp [NsHeap.nsmapOf, hmc, withChild]
  · exact nsmapOf_unchanged (H := withChild H par c) hr (attachFold_framed H.next fuel c _ _ (Nat.le_refl _)) hm

/-- allocated-references well-formedness is preserved by every namespace operation … -/
theorem C13_refs_step (fuel : Nat) (H : NsHeap) (hr : RefsOK H) (op : NsOp) : RefsOK (nsStep fuel H op) := by
  -- every operation is a pointer-level frame (`Framed 0`), and `refs` is one of its clauses
  cases op with
  | attach par c =>
    rw [nsStep, attachNs_eq]
    split
    · exact (framed_setNs (base := 0) (withChild H par c) c _ (Or.inr (Nat.zero_le _)) (fun h => h par) (Reach.refl c)).refs hr
    · exact (attachFold_framed 0 fuel c _ (withChild H par c) (Nat.zero_le _)).refs hr
  | declare n p u => exact (addNs_framed 0 p u fuel H n none (Nat.zero_le _) nofun).refs hr
  | remove n p => exact (removeNs_framed 0 p fuel H n none (Nat.zero_le _) nofun).refs hr
  | setNsmap n d =>
    exact (setNsSub_framed _ fuel _ n (Nat.lt_succ_self _)).refs ((framed_alloc (base := 0) (root := n) H d (Nat.zero_le _)).refs hr)
  | share n m => exact (setNsSub_framed _ fuel H n (hr m)).refs hr
  | fix n => exact (fixNs_framed fuel H n none none nofun).refs hr

/-- … hence along every history, so the isolation theorems above apply after any sequence of operations,
    whatever sharing of dict objects that sequence has produced -/
theorem C13_history (fuel : Nat) : ∀ (ops : List NsOp) (H : NsHeap), RefsOK H → RefsOK (ops.foldl (nsStep fuel) H) :=
  fun ops _ h => List.foldlRecOn ops _ h fun Hc hc op _ => C13_refs_step fuel Hc hc op

theorem reach_of_reachIn {K : Nat → List Nat} : ∀ {k n m : Nat}, ReachIn K k n m → Reach K n m := by
  intro k n m h
  induction h with
  | refl _ n => exact Reach.refl n
  | step hc _ ih => exact Reach.step hc ih

section
-- `RefsOK H` is a hypothesis of these five statements; `addNs_visible`, `addNs_root`, `removeNs_visible`,
-- `attachNs_visible` and `attachNs_value`, of which they are instances, hold without it
set_option linter.unusedVariables false

/-- declaring `p = u` on `n` makes the binding visible on `n` and on every node of its subtree the recursion reaches -
    for EVERY heap: whatever dict objects the nodes shared before, and in whatever order they are visited -/
theorem C13_declare_visible (fuel : Nat) (H : NsHeap) (hr : RefsOK H) (n : Nat) (p u : String) (m : Nat)
    (hm : ReachIn H.kids fuel n m) : ((addNs fuel H n p u none).nsmapOf m).get? p = some u :=
  addNs_visible p u (fun d => d.get? p = some u) (fun d => get?_set_self d p u) fuel H n none m hm

/-- the node the declaration is applied to keeps every other binding it had (a tree node is not its own descendant) -/
theorem C13_declare_keeps_others (fuel : Nat) (H : NsHeap) (hr : RefsOK H) (n : Nat) (p u : String)
    (hac : ∀ c ∈ H.kids n, ¬ Reach H.kids c n) :
    (addNs (fuel + 1) H n p u none).nsmapOf n = (H.nsmapOf n).set p u :=
  addNs_root fuel H n p u hac

/-- removing `p` on `n` leaves no node of the subtree with the prefix … -/
theorem C13_remove_visible (fuel : Nat) (H : NsHeap) (hr : RefsOK H) (n : Nat) (p : String) (m : Nat)
    (hm : ReachIn H.kids fuel n m) : ((removeNs fuel H n p none).nsmapOf m).has p = false :=
  removeNs_visible p fuel H n none m hm

/-- attaching `c` under `par`: afterwards the child's map is the merge of the parent's bindings into the child's
    own map - every prefix of the parent is visible in the child, and every binding the child had is kept (the
    child's own bindings win).  `hac`: the child is not its own descendant. -/
theorem C13_attach_visible (fuel : Nat) (H : NsHeap) (hr : RefsOK H) (par c : Nat)
    (hac : ∀ k ∈ (withChild H par c).kids c, ¬ Reach (withChild H par c).kids k c) :
    (∀ kv ∈ H.nsmapOf par, ((attachNs (fuel + 1) H par c).nsmapOf c).has kv.1 = true) ∧
    (∀ k v, (H.nsmapOf c).get? k = some v → ((attachNs (fuel + 1) H par c).nsmapOf c).get? k = some v) :=
  attachNs_visible fuel H par c hac

/-- … and the value the child sees for a prefix it did not bind itself is the parent's own binding (not an ancestor's, not any
    other): for parent maps with unique keys (Python dicts) -/
theorem C13_attach_value (fuel : Nat) (H : NsHeap) (hr : RefsOK H) (par c : Nat)
    (hac : ∀ k ∈ (withChild H par c).kids c, ¬ Reach (withChild H par c).kids k c)
    (hnd : (H.nsmapOf par).keys.Nodup) :
    ∀ kv ∈ H.nsmapOf par, (H.nsmapOf c).has kv.1 = false →
      ((attachNs (fuel + 1) H par c).nsmapOf c).get? kv.1 = some kv.2 :=
  attachNs_value fuel H par c hac hnd

end

/-- … hence on the entire subtree: every node below `n` is reached once the budget exceeds its depth (Python's
    recursion has no budget) -/
theorem C13_declare_visible_subtree (H : NsHeap) (hr : RefsOK H) (n : Nat) (p u : String) (m : Nat)
    (hm : Reach H.kids n m) : ∃ k, ∀ fuel, k ≤ fuel → ((addNs fuel H n p u none).nsmapOf m).get? p = some u := by
  obtain ⟨k, hk⟩ := reachIn_of_reach hm
  exact ⟨k, fun fuel hf => C13_declare_visible fuel H hr n p u m (hk.mono hf)⟩

/-- … so together with `C13_remove_isolated` the prefix disappears from exactly that subtree:
    gone on every node inside, every node outside sees the map it saw before -/
theorem C13_remove_exact (fuel : Nat) (H : NsHeap) (hr : RefsOK H) (n : Nat) (p : String) (m : Nat) :
    (ReachIn H.kids fuel n m → ((removeNs fuel H n p none).nsmapOf m).has p = false) ∧
    (¬ Reach H.kids n m → (removeNs fuel H n p none).nsmapOf m = H.nsmapOf m) :=
  ⟨C13_remove_visible fuel H hr n p m, C13_remove_isolated fuel H hr n p m⟩

/-- non-vacuity: the initial heap (every node its own empty map) satisfies the hypothesis -/
example : RefsOK { kids := fun _ => [], ns := fun a => if a < 3 then a else 0, cell := fun _ => [], next := 3 } := by
  intro m; simp only; split <;> omega

/-- the D10 witness: two children sharing the root's dict object; re-declaring on one child leaves root and sibling alone -/
example :
    let H0 : NsHeap := { kids := fun a => if a = 0 then [1, 2] else [], ns := fun _ => 0, cell := fun _ => [("a", "u1")], next := 1 }
    let H1 := addNs 5 H0 1 "a" "u2" none
    (H1.nsmapOf 0, H1.nsmapOf 2, H1.nsmapOf 1) = ([("a", "u1")], [("a", "u1")], [("a", "u2")]) := by
  decide

/-- the premises of the visibility theorems on a heap with sharing: root and both children hold ONE dict object, node 2 is
    within reach of the root, references are allocated -/
example :
    let H0 : NsHeap := { kids := fun a => if a = 0 then [1, 2] else [], ns := fun _ => 0, cell := fun _ => [("a", "u1")], next := 1 }
    ReachIn H0.kids 2 0 2 ∧ RefsOK H0 := by
  refine ⟨.step (c := 2) (by decide) (.refl 0 2), fun m => by simp⟩

def fixLeakHeapBase : NsHeap :=
  { kids := fun a => if a = 0 then [1] else if a = 1 then [2] else [],
    ns := fun a => a,
    cell := fun r => if r = 1 then [("a", "u2")] else if r = 2 then [("a", "u1")] else [],
    next := 4 }

/-- `fix_nsmap(n)` for every heap and every recursion budget: the child lists are untouched and every node outside the
    subtree of `n` keeps the very dict object it held (pointer-level frame).  This is the part of the isolation clause
    that holds of the helper unconditionally; `_partial` because the helper also writes *in place* into dict objects
    that strict descendants already hold (`node.nsmap[prefix] = nsmap[prefix]`), so the bindings *seen* outside are
    unchanged only when no such object is shared across the subtree boundary - see `C13_fix_leak_witness`. -/
theorem C13_fix_frame_partial (fuel : Nat) (H : NsHeap) (n : Nat) :
    (fixNs fuel H n none none).kids = H.kids ∧
    (∀ m, ¬ Reach H.kids n m → (fixNs fuel H n none none).ns m = H.ns m) ∧
    H.next ≤ (fixNs fuel H n none none).next :=
  have h := fixNs_framed fuel H n none none nofun
  ⟨h.kids_eq, h.outside, h.next_le⟩

/-- cell-level isolation of `fix_nsmap(n)`, for every heap, every child relation and every budget: a node `m` outside the subtree
    that holds a dict object which NO node of the subtree (the node `n` included) holds sees exactly the bindings it saw before.
    Every write of the helper goes to an object allocated during the call or to one a subtree node held at the start
    (`fixNs_wstep`).  `_partial`: the hypothesis also excludes an outside node sharing the object of `n` itself (the usual
    state of `n`'s parent after an attach with equal maps); on tree-shaped child relations the object of `n` is never written
    either, which the oracle checks on every explored state but which is not proved. -/
theorem C13_fix_isolated_partial (fuel : Nat) (H : NsHeap) (hr : RefsOK H) (n m : Nat)
    (hm : ¬ Reach H.kids n m) (hsh : ∀ x, Reach H.kids n x → H.ns x ≠ H.ns m) :
    (fixNs fuel H n none none).nsmapOf m = H.nsmapOf m := by
  have hw := fixNs_wstep (K := H.kids) (n0 := n) (base := H.next) (W := fun r => ∃ x, Reach H.kids n x ∧ H.ns x = r)
    fuel H n none none ⟨rfl, Nat.le_refl _, fun x hx => Or.inl ⟨x, hx, rfl⟩⟩ (Reach.refl n) nofun
  rw [NsHeap.nsmapOf, (fixNs_framed fuel H n none none nofun).outside m hm]
  exact hw.cells (H.ns m) (hr m) (fun ⟨x, hx, e⟩ => hsh x hx e)

/-- the hypotheses of `C13_fix_isolated_partial` are satisfiable on a heap where the call does real work: in
    `fixLeakHeapBase` (the chain 0 → 1 → 2 and the unrelated node 3, every node holding a dict object of its own; the term
    below spells its `ns` field out) the call at node 0 rewrites node 2's binding of `a` and node 3 is untouched -/
example : (fixNs 5 { fixLeakHeapBase with ns := fun a => a } 0 none none).nsmapOf 2 = [("a", "u2")] ∧
    (fixNs 5 { fixLeakHeapBase with ns := fun a => a } 0 none none).nsmapOf 3 = [] := by decide

/-- a subtree all of whose nodes hold one and the same dict object (what `add_child` with equal maps and `set_nsmap` leave
    behind) is a fixed point of the helper: nothing is allocated, re-pointed or written, for every heap and every budget -/
theorem C13_fix_all_shared (fuel : Nat) (H : NsHeap) (n : Nat) (h : ∀ x, Reach H.kids n x → H.ns x = H.ns n) :
    fixNs fuel H n none none = H :=
  fixNs_all_shared (H.ns n) fuel H n none none h (Or.inl rfl)

/-- the recursion budget exhausted, or a node without children: `fix_nsmap` at the entry call does nothing at all
    (the node's own map is only ever rewritten from its parent's) -/
theorem C13_fix_leaf (fuel : Nat) (H : NsHeap) (n : Nat) (hk : H.kids n = []) : fixNs fuel H n none none = H := by
  cases fuel with
  | zero => rfl
  | succ f =>
    rw [fixNs_succ, hk]
    rfl

/-- a four-node heap: 0 → 1 → 2 is a chain, 3 is unrelated; node 2 and node 3 hold the SAME dict object (cell 2, `a ↦ u1`,
    as `set_nsmap` with one object on two nodes leaves it), node 1 binds `a ↦ u2` -/
def fixLeakHeap : NsHeap := { fixLeakHeapBase with ns := fun a => if a = 3 then 2 else a }

/-- the cell-level isolation clause is FALSE of `fix_nsmap` when a dict object is shared across the subtree boundary:
    `fix_nsmap(node 0)` rewrites `a` in place in the object node 2 holds, and the unrelated node 3 sees it.  The same
    history is replayed on the implementation by the correspondence of every run (ops `share` then `fix`), which is
    why the oracle judges outside nodes only when they share no dict object with a strict descendant. -/
theorem C13_fix_leak_witness :
    fixLeakHeap.nsmapOf 3 = [("a", "u1")] ∧ (fixNs 5 fixLeakHeap 0 none none).nsmapOf 3 = [("a", "u2")] := by
  decide

end Metapype
