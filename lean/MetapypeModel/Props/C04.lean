import MetapypeModel.Props.C01
import MetapypeModel.Props.C02
import MetapypeModel.Props.C03
import MetapypeModel.Props.C05
import MetapypeModel.Props.C10
import MetapypeModel.Gen.Facts
import MetapypeModel.Model.Lex
import MetapypeModel.Lemmas.NodeLemmas
/-
  C04 — validation is total: only rule errors escape, collecting mode never raises.

  In the model every partial Python operation on the validation path is an explicit
  `crash` event and a non-terminating loop a `diverge` event, so the claim is a theorem:
  for every lexer, every table satisfying `TablesWF` and EVERY tree (any names, content,
  attributes, shape, depth) all events are rule errors.  `TablesWF` is discharged for the
  regenerated table by kernel evaluation.  Termination of the model functions is checked
  by Lean (structural recursion / fuel with a proved bound, see `loopW_events`).
-/
namespace Metapype

/-- what validation needs from the tables: mapped rules exist, children specs lie in the exact class -/
def TablesWF (T : Tables) : Prop :=
  (∀ m ∈ T.mappings, (T.rules.find? (·.name == m.2)).isSome = true) ∧ (∀ r ∈ T.rules, wfTop r.children = true)

theorem validateContent_errs (L : Lexer) (r : Rule) (M : Bool) (n : Nat) (c : Option String) :
    ∀ e ∈ validateContent L r M n c, ∃ k, e = .err k := fun e he =>
  have ⟨k, hk, _⟩ := C02_family L r M n c e he
  ⟨k, hk⟩

theorem validateAttrs_errs (spec : List AttrSpec) (attrs : Dict) : ∀ e ∈ validateAttrs spec attrs, ∃ k, e = .err k := by
  rw [C03_events_are_detail]
  intro e he
  obtain ⟨d, _, rfl⟩ := List.mem_map.mp he
  exact ⟨_, rfl⟩

theorem collectNode_errs (L : Lexer) (T : Tables) (hT : TablesWF T) (name : String) (c : Option String) (a : Dict)
    (ks : List String) : ∀ e ∈ collectNode L T name c a ks, ∃ k, e = .err k := by
  intro e he
  unfold collectNode at he
  split at he
  · exact ⟨_, List.mem_singleton.mp he⟩
  · rename_i hr
    exact absurd hr (ruleOf_ne_missing T hT.1 name)
  · rename_i r hr
    have hall : ∀ e ∈ validateContent L r (isMixed T.mixedRules r) ks.length c ++ validateAttrs r.attrs a ++
        validateChildrenRaw name (isMixed T.mixedRules r) r.children ks, ∃ k, e = .err k :=
      List.forall_mem_append.mpr ⟨List.forall_mem_append.mpr ⟨validateContent_errs _ _ _ _ _, validateAttrs_errs _ _⟩,
        validateChildrenRaw_errs _ _ _ (hT.2 r (mem_of_ruleOf T name r hr)) _⟩
    -- all of them are errors, so nothing is cut off
    rw [validateRule, cutAtCrash_of_errs _ hall] at he
    exact hall e he

theorem raw_errs (L : Lexer) (T : Tables) (hT : TablesWF T) (t : Tree) :
    ∀ pe ∈ (visible t []).flatMap (nodeEvents L T), ∃ k, pe.2 = .err k := by
  intro pe hpe
  simp only [List.mem_flatMap, nodeEvents, List.mem_map] at hpe
  obtain ⟨pn, _, ev, hev, rfl⟩ := hpe
  exact collectNode_errs L T hT _ _ _ _ ev hev

/-- nothing but rule errors: no event of any validation run is a crash or a divergence -/
theorem C04_no_crash (L : Lexer) (T : Tables) (hT : TablesWF T) (t : Tree) :
    ∀ pe ∈ collectTree L T t, ∃ k, pe.2 = .err k := by
  rw [C05_collect_concat, cutAtCrashP_of_errs _ (raw_errs L T hT t)]
  exact raw_errs L T hT t

/-- hence collecting mode returns the complete concatenated list (nothing is cut off by an exception) -/
theorem C04_collect_complete (L : Lexer) (T : Tables) (hT : TablesWF T) (t : Tree) :
    collectTree L T t = (visible t []).flatMap (nodeEvents L T) := by
  rw [C05_collect_concat, cutAtCrashP_of_errs _ (raw_errs L T hT t)]

/-- the error list stays empty exactly when the fail-fast call on the same tree succeeds -/
theorem C04_collect_iff (L : Lexer) (T : Tables) (t : Tree) :
    collectTree L T t = [] ↔ failfastTree L T t = none := by
  simp only [failfastTree, List.head?_eq_none_iff]

/-- every appended entry names a node of the tree (a visible one) -/
theorem C04_entry_node_in_tree (L : Lexer) (T : Tables) (hT : TablesWF T) (t : Tree) :
    ∀ pe ∈ collectTree L T t, ∃ n, (pe.1, n) ∈ visible t [] := by
  rw [C04_collect_complete L T hT t]
  intro pe hpe
  simp only [List.mem_flatMap, nodeEvents, List.mem_map] at hpe
  obtain ⟨pn, hpn, ev, _, rfl⟩ := hpe
  exact ⟨pn.2, hpn⟩

/-- every error kind of the model is a member of the regenerated `ValidationError` enumeration -/
theorem C04_codes_are_members : ∀ k : ErrKind, k.toString ∈ Gen.validationErrorMembers := by
  intro k
  -- `simp` compares the string literals as literals; `decide` would make the kernel decode each of them
  cases k <;> simp [ErrKind.toString, Gen.validationErrorMembers]

/-- the regenerated tables satisfy `TablesWF`: the two table facts `C10_mapped_rules_exist` and `C01_table_wf` -/
theorem C04_tables_wf : TablesWF Gen.tables := by
  refine ⟨fun m hm => List.find?_isSome.mpr ?_, C01_table_wf⟩
  obtain ⟨r, hr, hn⟩ := List.mem_map.mp (C10_mapped_rules_exist m hm)
  exact ⟨r, hr, by simpa using hn⟩

/-- non-vacuity / instance: for the shipped tables and the modelled lexer no tree whatsoever makes validation crash -/
theorem C04_total_for_shipped_tables (t : Tree) :
    ∀ pe ∈ collectTree Lex.lexer Gen.tables t, ∃ k, pe.2 = .err k :=
  C04_no_crash Lex.lexer Gen.tables C04_tables_wf t

end Metapype
