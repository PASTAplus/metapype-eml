import MetapypeModel.Model.TableWF
import MetapypeModel.Model.Validate
import MetapypeModel.Model.Lex
import MetapypeModel.Gen.Rules
import MetapypeModel.Gen.Facts
import MetapypeModel.Gen.Witness
import MetapypeModel.Gen.Findings
import MetapypeModel.Props.C01
import MetapypeModel.Props.C02
import MetapypeModel.Lemmas.StrKey
/-
  C10 — the rule table is closed and consistent with the known element names.
  The quantifier is the finite shipped table (Gen/*.lean is rewritten from /repo on every run, and these
  theorems are re-checked against it), so the table facts are evaluated by the kernel
  (`decide +kernel`) over the *whole* regenerated table.  Where a fact needs many name comparisons it is
  decided on the `Nat` keys of Lemmas/StrKey.lean; that every element has a witness is the equality of two
  lists the translator emits in the same order.  The remaining statements follow from these and from C01.
-/
namespace Metapype
open Gen

/-- every element name the library knows resolves to a rule that exists -/
theorem C10_mapped_rules_exist : ∀ m ∈ nodeMappings, m.2 ∈ tables.ruleNames := fun m hm =>
  mem_of_strKey_mem ((by decide +kernel : ∀ m ∈ nodeMappings, strKey m.2 ∈ tables.ruleNames.map strKey) m hm)

/-- element names and rule names are unique keys (Python dict / JSON object semantics) -/
theorem C10_keys_unique : tables.knownElements.Nodup ∧ tables.ruleNames.Nodup :=
  ⟨nodup_of_strKey_nodup (nodup_of_residues 16 (by decide) (by decide +kernel)),
   nodup_of_strKey_nodup (nodup_of_residues 16 (by decide) (by decide +kernel))⟩

/-- structural well-formedness of every rule: children bounds, implemented content rules.
    (That attribute specs are led by a Boolean flag and that children specs parse as nested
    sequences/choices is enforced by the translator: a table where they do not is not
    renderable as a `Rule` term at all and is reported as a broken tie.) -/
theorem C10_rules_wellformed :
    ∀ r ∈ rules, r.children.boundsOK = true ∧ ∀ c ∈ r.contentRules, c ∈ contentDispatch := fun r hr =>
  ⟨(by decide +kernel : ∀ r ∈ rules, r.children.boundsOK = true) r hr, C02_table_rules_use_implemented r hr⟩

/-- full-strength closure statement: every child name a reachable rule permits is a known element -/
def C10_children_known_full : Prop :=
  ∀ r ∈ tables.reachable, ∀ c ∈ r.children.names, c ∈ tables.knownElements

/-- closure holds of every rule of the table, reachable or not, up to the recorded pairs -/
theorem C10_children_known_all_rules :
    ∀ r ∈ rules, ∀ c ∈ r.children.names, c ∈ tables.knownElements ∨ (r.name, c) ∈ findingsC10 := fun r hr c hc =>
  ((by decide +kernel : ∀ r ∈ rules, ∀ c ∈ r.children.names,
      strKey c ∈ tables.knownElements.map strKey ∨ (r.name, c) ∈ findingsC10) r hr c hc).imp_left mem_of_strKey_mem

/-- what holds today: closure up to the (rule, child) pairs recorded in known_findings.json -/
theorem C10_children_known_modulo_findings :
    ∀ r ∈ tables.reachable, ∀ c ∈ r.children.names,
      c ∈ tables.knownElements ∨ (r.name, c) ∈ findingsC10 :=
  fun r hr => C10_children_known_all_rules r (List.mem_filter.mp hr).1

/-- whatever single-node validation allows lists only names the rule mentions: an accepted child sequence of a node that is
    not `metadata` contains no name outside the rule's children section -/
theorem C10_accepted_children_mentioned (s : Spec) (hw : wfTop s = true) (nodeName : String) (hn : nodeName ≠ "metadata")
    (M : Bool) (xs : List String) (hacc : validateChildren nodeName M s xs = []) : ∀ x ∈ xs, x ∈ s.names :=
  Lang_names_sub true M s xs ((C01_accept_iff s hw nodeName hn M xs).mp hacc)

/-- … hence, for the shipped table: every child that single-node validation of a known, non-`metadata` element lets pass is
    itself a known element (so whole-tree validation can go on below it) — up to the recorded findings -/
theorem C10_single_node_allows_only_known (r : Rule) (hr : r ∈ tables.reachable) (nodeName : String) (hn : nodeName ≠ "metadata")
    (M : Bool) (xs : List String) (hacc : validateChildren nodeName M r.children xs = []) :
    ∀ x ∈ xs, x ∈ tables.knownElements ∨ (r.name, x) ∈ findingsC10 := by
  intro x hx
  have hrules : r ∈ Gen.rules := (List.mem_filter.mp hr).1
  exact C10_children_known_all_rules r hrules x
    (C10_accepted_children_mentioned r.children (C01_table_wf r hrules) nodeName hn M xs hacc x hx)

/-- the translator lists one candidate witness tree per known element, in the order of the element map -/
theorem witnesses_cover_elements : witnesses.map (·.1) = tables.knownElements := by decide +kernel

/-- for every known element a candidate witness tree is listed … -/
theorem C10_every_element_has_witness : ∀ e ∈ tables.knownElements, e ∈ witnesses.map (·.1) :=
  fun _ he => witnesses_cover_elements ▸ he

/-- … and every listed witness is rooted at its element and passes whole-tree validation
    (model validator with the lexical classifiers of Model/Lex.lean, evaluated by the kernel) -/
theorem C10_witnesses_valid :
    ∀ w ∈ witnesses, w.2.name = w.1 ∧ collectTree Lex.lexer tables w.2 = [] := by decide +kernel

/-- hence: for every known element some tree rooted at it passes whole-tree validation -/
theorem C10_every_element_has_valid_tree :
    ∀ e ∈ tables.knownElements, ∃ t : Tree, t.name = e ∧ collectTree Lex.lexer tables t = [] := by
  intro e he
  have h := C10_every_element_has_witness e he
  rw [List.mem_map] at h
  obtain ⟨w, hw, rfl⟩ := h
  exact ⟨w.2, C10_witnesses_valid w hw⟩

end Metapype
