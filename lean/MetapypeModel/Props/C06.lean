import MetapypeModel.Model.Json
import MetapypeModel.Lemmas.DictLemmas
import MetapypeModel.Lemmas.TreeLemmas
/-
  C06 — JSON save/load reproduces the tree exactly.
  For every tree whose dictionaries have unique keys (Python dicts) and whose namespace prefixes include
  their parent's (the first conjunct of `JsonOKL`; every import and attach establishes it); induction on trees.
  `json.dumps` / `json.loads` are trusted to be mutually inverse on `J` with insertion order kept.
-/
namespace Metapype

mutual
def JsonOK : Tree → Prop
  | .mk _ _ _ _ _ a e ns cs => a.keys.Nodup ∧ e.keys.Nodup ∧ ns.keys.Nodup ∧ JsonOKL ns cs
def JsonOKL (pns : Dict) : List Tree → Prop
  | [] => True
  | c :: cs => (∀ kv ∈ pns, c.nsmap.has kv.1 = true) ∧ JsonOK c ∧ JsonOKL pns cs
end

theorem toDict_fold (d acc : Dict) :
    (d.map (fun kv => (kv.1, J.str kv.2))).foldlM
      (fun (dd : Dict) (kv : String × J) => match kv.2 with | .str v => some (dd.set kv.1 v) | _ => none) acc =
      some (d.foldl (fun dd kv => dd.set kv.1 kv.2) acc) := by
  induction d generalizing acc with
  | nil => rfl
  | cons kv d ih =>
    rw [List.map_cons, List.foldlM_cons, List.foldl_cons]
    exact ih _

theorem toDict_ofDict (d : Dict) (h : d.keys.Nodup) : J.toDict? (J.ofDict d) = some d :=
  (toDict_fold d []).trans (congrArg some (foldl_set_fresh d [] h))

theorem toOpt_ofOpt (o : Option String) : J.toOpt? (J.ofOpt o) = some o := by
  cases o <;> rfl

theorem mergeNs_closed : ∀ (pns : Dict) (c : Tree), (∀ kv ∈ pns, c.nsmap.has kv.1 = true) → mergeNs pns c = c := by
  intro pns c h
  unfold mergeNs
  induction pns with
  | nil => rfl
  | cons kv rest ih =>
    simp only [List.foldl_cons, h kv List.mem_cons_self, if_true]
    exact ih (fun x hx => h x (List.mem_cons_of_mem _ hx))

theorem fromJ_serialize_both :
    (∀ (t : Tree), JsonOK t → fromJ (serialize t) = some t) ∧
    (∀ (cs : List Tree) (pns : Dict), JsonOKL pns cs → fromJL (serializeL cs) = some cs ∧ cs.map (mergeNs pns) = cs) := by
  refine Tree.induct₂ (fun i n c tl p a e ns cs ih h => ?_) (fun _ _ => ⟨rfl, rfl⟩) (fun c cs ihc ihcs pns h => ?_)
  · simp only [JsonOK] at h
    obtain ⟨ha, he, hns, hcs⟩ := h
    simp only [serialize, fromJ, toDict_ofDict ns hns, toDict_ofDict a ha, toDict_ofDict e he, toOpt_ofOpt,
      (ih ns hcs).1, (ih ns hcs).2]
  · simp only [JsonOKL] at h
    obtain ⟨h1, h2, h3⟩ := h
    exact ⟨by simp only [serializeL, fromJL, ihc h2, (ihcs pns h3).1],
           by simp only [List.map_cons, mergeNs_closed pns c h1, (ihcs pns h3).2]⟩

theorem fromJL_serializeL (pns : Dict) : ∀ (cs : List Tree), JsonOKL pns cs →
    fromJL (serializeL cs) = some cs ∧ cs.map (mergeNs pns) = cs := fun cs => fromJ_serialize_both.2 cs pns

/-- loading what was saved reproduces the tree exactly: ids, names, child order, content, tail, attributes,
    extras, prefix and namespace maps (parent links are positions in a value tree) -/
theorem C06_roundtrip (t : Tree) (h : JsonOK t) : fromJ (serialize t) = some t := fromJ_serialize_both.1 t h

/-- re-serialising the loaded tree gives the identical JSON value (hence, `json.dumps` being a function, identical text) -/
theorem C06_reserialize (t t' : Tree) (h : JsonOK t) (hl : fromJ (serialize t) = some t') : serialize t' = serialize t := by
  rw [C06_roundtrip t h] at hl; cases hl; rfl

mutual
def LegacyOK : Tree → Prop
  | .mk _ _ _ _ _ a _ _ cs => a.keys.Nodup ∧ LegacyOKL cs
def LegacyOKL : List Tree → Prop
  | [] => True
  | c :: cs => LegacyOK c ∧ LegacyOKL cs
end

theorem legacy_roundtrip_both :
    (∀ (t : Tree), LegacyOK t → legacyFromJ (legacySerialize t) = some (project5 t)) ∧
    (∀ (cs : List Tree), LegacyOKL cs → legacyFromJL (legacySerializeL cs) = some (project5L cs)) := by
  refine Tree.induct₂ (fun i n c tl p a e ns cs ih h => ?_) (fun _ => rfl) (fun c cs ihc ihcs h => ?_)
  · simp only [LegacyOK] at h
    simp only [legacySerialize, legacyFromJ, toDict_ofDict a h.1, toOpt_ofOpt, ih h.2, project5]
  · simp only [LegacyOKL] at h
    simp only [legacySerializeL, legacyFromJL, ihc h.1, ihcs h.2, project5L]

theorem legacyL_roundtrip : ∀ (cs : List Tree), LegacyOKL cs → legacyFromJL (legacySerializeL cs) = some (project5L cs) :=
  legacy_roundtrip_both.2

/-- the legacy codec reproduces the fields it carries: id, name, attributes, content, children -/
theorem C06_legacy (t : Tree) (h : LegacyOK t) : legacyFromJ (legacySerialize t) = some (project5 t) := legacy_roundtrip_both.1 t h

theorem upgrade_legacySerialize_both :
    (∀ (t : Tree), upgrade (legacySerialize t) = serialize (project5 t)) ∧
    (∀ (cs : List Tree), upgradeL (legacySerializeL cs) = serializeL (project5L cs)) := by
  refine Tree.induct₂ (fun i n c tl p a e ns cs ih => ?_) rfl (fun c cs ihc ihcs => ?_)
  · simp only [legacySerialize, upgrade, project5, serialize, ih]
    rfl
  · simp only [legacySerializeL, upgradeL, project5L, serializeL, ihc, ihcs]

theorem JsonOK_project5_both :
    (∀ (t : Tree), LegacyOK t → JsonOK (project5 t)) ∧
    (∀ (cs : List Tree), LegacyOKL cs → JsonOKL [] (project5L cs)) := by
  refine Tree.induct₂ (fun i n c tl p a e ns cs ih h => ?_) (fun _ => trivial) (fun c cs ihc ihcs h => ?_)
  · simp only [LegacyOK] at h
    simp only [project5, JsonOK]
    exact ⟨h.1, List.nodup_nil, List.nodup_nil, ih h.2⟩
  · simp only [LegacyOKL] at h
    simp only [project5L, JsonOKL]
    exact ⟨fun _ hkv => (nomatch hkv), ihc h.1, ihcs h.2⟩

theorem upgradeL_load : ∀ (cs : List Tree), LegacyOKL cs → fromJL (upgradeL (legacySerializeL cs)) = some (project5L cs) := by
  intro cs h
  rw [upgrade_legacySerialize_both.2]
  exact (fromJL_serializeL [] _ (JsonOK_project5_both.2 cs h)).1

/-- a legacy document upgraded by the bundled converter loads as the same tree with empty namespace data -/
theorem C06_upgrade (t : Tree) (h : LegacyOK t) : fromJ (upgrade (legacySerialize t)) = some (project5 t) := by
  rw [upgrade_legacySerialize_both.1]
  exact C06_roundtrip _ (JsonOK_project5_both.1 t h)

/-- the hypothesis is necessary: a child lacking a prefix of its parent is changed by the reload
    (`add_child` merges the parent's bindings into it) -/
example : fromJ (serialize (.mk "1" "a" none none none [] [] [("p", "u")] [.mk "2" "b" none none none [] [] [] []])) =
    some (.mk "1" "a" none none none [] [] [("p", "u")] [.mk "2" "b" none none none [] [] [("p", "u")] []]) := by
  rfl

/-- non-vacuity: a tree with nested re-declared prefixes, tail, extras and astral characters meets the hypothesis -/
example : JsonOK (.mk "1" "eml" none none (some "eml") [("packageId", "x")] [("xsi:schemaLocation", "a b")] [("eml", "u1"), ("stmml", "u2")]
    [.mk "2" "unitList" (some "😀") (some "\n ") (some "stmml") [] [] [("eml", "u1"), ("stmml", "u3")] []]) := by
  simp only [JsonOK, JsonOKL]
  decide +kernel

end Metapype
