import MetapypeModel.Model.Lex
import MetapypeModel.Gen.Rules
import MetapypeModel.Gen.Facts
import MetapypeModel.Lemmas.NodeLemmas
/-
  C02 — content validation decides exactly as the rule's content constraints require.

  The typed predicates (CPython `float`/`int`/`strptime`/`fromisoformat`, `rfc3986`) are
  parameters of the model (`Lexer`).  The dispatch theorems hold for EVERY lexer; the
  lexical theorems are about the classifiers of Model/Lex.lean, which are tied to the real
  parsers by the correspondence check only (trusted base).
-/
namespace Metapype

/-- one declared content constraint, stated declaratively -/
def ContentRuleOK (L : Lexer) (M : Bool) (nKids : Nat) (c : Option String) (cr : String) : Prop :=
  if cr = "emptyContent" then c = none
  else if cr = "nonEmptyContent" then (c ≠ none ∧ c ≠ some "") ∨ (M = true ∧ 0 < nKids)
  else if cr = "floatContent" then ∀ s, c = some s → L.isFloat s = true
  else if cr = "floatRangeContent_EW" then ∀ s, c = some s → L.isFloat s = true ∧ L.inRangeEW s = true
  else if cr = "floatRangeContent_NS" then ∀ s, c = some s → L.isFloat s = true ∧ L.inRangeNS s = true
  else if cr = "floatContent_Nonnegative" then ∀ s, c = some s → L.isFloat s = true ∧ L.nonNeg s = true
  else if cr = "intContent" then ∀ s, c = some s → L.isInt s = true
  else if cr = "timeContent" then ∀ s, c = some s → L.isTime s = true
  else if cr = "uriContent" then ∀ s, c = some s → L.isUri s = true
  else if cr = "yearDateContent" then ∀ s, c = some s → L.isYearDate s = true
  else if cr = "strContent" ∨ cr = "anyContent" then True
  else False

/-- the conjunction over the rule's `content_rules` and `content_enum` -/
def ContentOK (L : Lexer) (r : Rule) (M : Bool) (nKids : Nat) (c : Option String) : Prop :=
  (∀ cr ∈ r.contentRules, ContentRuleOK L M nKids c cr) ∧
  (∀ vs, r.contentEnum = some vs → ∃ s, c = some s ∧ s ∈ vs)

/-- the content-rule names the model's dispatch (Model/Rule.lean) has an arm for -/
def modelDispatch : List String := ["emptyContent", "floatContent", "floatRangeContent_EW", "floatRangeContent_NS", "floatContent_Nonnegative", "intContent", "nonEmptyContent", "strContent", "timeContent", "uriContent", "yearDateContent", "anyContent"]

theorem vcr_unknown (L : Lexer) (M : Bool) (n : Nat) (c : Option String) (cr : String) (h : cr ∉ modelDispatch) :
    validateContentRule L M n c cr = [.err .unknownContentRule] := by
  simp only [modelDispatch, List.mem_cons, List.not_mem_nil, or_false, not_or] at h
  delta validateContentRule
  simp only [h, if_false]

theorem C02_rule_decides (L : Lexer) (M : Bool) (n : Nat) (c : Option String) (cr : String) :
    validateContentRule L M n c cr = [] ↔ ContentRuleOK L M n c cr := by
  by_cases h : cr ∈ modelDispatch
  · simp only [modelDispatch, List.mem_cons, List.not_mem_nil, or_false] at h
    rcases h with rfl | rfl | rfl | rfl | rfl | rfl | rfl | rfl | rfl | rfl | rfl | rfl
    · cases c <;> simp [ContentRuleOK]                   -- emptyContent
    · simp [ContentRuleOK, typedArm_nil_iff]             -- floatContent
    · simp [ContentRuleOK, validateRanged_nil_iff]       -- floatRangeContent_EW
    · simp [ContentRuleOK, validateRanged_nil_iff]       -- floatRangeContent_NS
    · simp [ContentRuleOK, validateRanged_nil_iff]       -- floatContent_Nonnegative
    · simp [ContentRuleOK, typedArm_nil_iff]             -- intContent
    · -- nonEmptyContent: reported iff the content is absent or empty and mixed content with a child does not excuse it
      simp [ContentRuleOK, Nat.pos_iff_ne_zero, Decidable.imp_iff_not_or]
    · simp [ContentRuleOK]                               -- strContent
    · simp [ContentRuleOK, typedArm_nil_iff]             -- timeContent
    · simp [ContentRuleOK, typedArm_nil_iff]             -- uriContent
    · simp [ContentRuleOK, typedArm_nil_iff]             -- yearDateContent
    · simp [ContentRuleOK]                               -- anyContent
  · rw [vcr_unknown L M n c cr h]
    simp only [modelDispatch, List.mem_cons, List.not_mem_nil, or_false, not_or] at h
    simp [ContentRuleOK, h]

/-- acceptance ⇔ the declared content constraints hold (every lexer, every rule, every content incl. None) -/
theorem C02_decides (L : Lexer) (r : Rule) (M : Bool) (n : Nat) (c : Option String) :
    validateContent L r M n c = [] ↔ ContentOK L r M n c := by
  unfold validateContent ContentOK
  rw [List.append_eq_nil_iff, List.flatMap_eq_nil_iff]
  apply and_congr
  · exact forall₂_congr fun cr _ => C02_rule_decides L M n c cr
  · cases r.contentEnum with
    | none => simp
    | some vs =>
      cases c with
      | none => simp
      | some s => by_cases hm : vs.contains s = true <;> simp_all

def contentKinds : List ErrKind := [.expectedEmpty, .expectedEnum, .expectedInt, .expectedFloat,
  .expectedRange, .expectedNonempty, .expectedString, .expectedTime, .expectedUri, .expectedYear, .unknownContentRule]

theorem vcr_kinds (L : Lexer) (M : Bool) (n : Nat) (c : Option String) (cr : String) :
    ∀ e ∈ validateContentRule L M n c cr,
      ∃ k, e = .err k ∧ k ∈ contentKinds ∧ (k = .unknownContentRule → cr ∉ modelDispatch) := by
  intro e he
  have known : ∀ k, e = .err k → k ∈ contentKinds → k ≠ .unknownContentRule →
      ∃ k, e = .err k ∧ k ∈ contentKinds ∧ (k = .unknownContentRule → cr ∉ modelDispatch) :=
    fun k hk hmem hne => ⟨k, hk, hmem, fun hu => absurd hu hne⟩
  have ranged : ∀ r, e ∈ validateRanged L r c →
      ∃ k, e = .err k ∧ k ∈ contentKinds ∧ (k = .unknownContentRule → cr ∉ modelDispatch) :=
    fun r he => (mem_validateRanged he).elim (fun h => known _ h (by decide) nofun) (fun h => known _ h (by decide) nofun)
  by_cases h : cr ∈ modelDispatch
  · simp only [modelDispatch, List.mem_cons, List.not_mem_nil, or_false] at h
    rcases h with rfl | rfl | rfl | rfl | rfl | rfl | rfl | rfl | rfl | rfl | rfl | rfl
    · rw [vcr_emptyContent, List.mem_ite_nil_right] at he
      exact known _ (List.mem_singleton.mp he.2) (by decide) nofun
    · exact known .expectedFloat (mem_typedArm (vcr_floatContent L M n c ▸ he)) (by decide) nofun
    · exact ranged _ (vcr_floatRangeContent_EW L M n c ▸ he)
    · exact ranged _ (vcr_floatRangeContent_NS L M n c ▸ he)
    · exact ranged _ (vcr_floatContent_Nonnegative L M n c ▸ he)
    · exact known .expectedInt (mem_typedArm (vcr_intContent L M n c ▸ he)) (by decide) nofun
    · rw [vcr_nonEmptyContent, List.mem_ite_nil_right] at he
      exact known _ (List.mem_singleton.mp he.2) (by decide) nofun
    · rw [vcr_strContent] at he
      cases he
    · exact known .expectedTime (mem_typedArm (vcr_timeContent L M n c ▸ he)) (by decide) nofun
    · exact known .expectedUri (mem_typedArm (vcr_uriContent L M n c ▸ he)) (by decide) nofun
    · exact known .expectedYear (mem_typedArm (vcr_yearDateContent L M n c ▸ he)) (by decide) nofun
    · rw [vcr_anyContent] at he
      cases he
  · rw [vcr_unknown L M n c cr h] at he
    exact ⟨_, List.mem_singleton.mp he, by decide, fun _ => h⟩

/-- content validation only ever reports content errors — never a crash, also for content `None` -/
theorem C02_family (L : Lexer) (r : Rule) (M : Bool) (n : Nat) (c : Option String) :
    ∀ e ∈ validateContent L r M n c, ∃ k, e = .err k ∧ k ∈ [ErrKind.expectedEmpty, .expectedEnum, .expectedInt, .expectedFloat,
      .expectedRange, .expectedNonempty, .expectedString, .expectedTime, .expectedUri, .expectedYear, .unknownContentRule] := by
  intro e he
  simp only [validateContent, List.mem_append, List.mem_flatMap] at he
  rcases he with ⟨cr, _, he⟩ | he
  · obtain ⟨k, hk, hmem, -⟩ := vcr_kinds L M n c cr e he
    exact ⟨k, hk, hmem⟩
  · cases hce : r.contentEnum with
    | none => rw [hce] at he; cases he
    | some vs =>
      rw [hce] at he
      cases c with
      | none => simp only [List.mem_singleton] at he; exact ⟨_, he, by decide⟩
      | some s =>
        simp only at he
        split at he
        · cases he
        · simp only [List.mem_singleton] at he; exact ⟨_, he, by decide⟩

/-- the same way in both modes: fail-fast raises iff collecting mode reports something -/
theorem C02_modes (L : Lexer) (r : Rule) (M : Bool) (n : Nat) (c : Option String) :
    (validateContent L r M n c).head? = none ↔ validateContent L r M n c = [] :=
  List.head?_eq_none_iff

/-- NaN and the infinities are outside every range: the ranged classifiers reject them -/
theorem C02_ranged_rejects_nonfinite (b : Nat) (s : List Char)
    (h : Lex.parseFloat s = some .nan ∨ ∃ neg, Lex.parseFloat s = some (.inf neg)) :
    Lex.classRange b s = .reject := by
  unfold Lex.classRange
  rcases h with h | ⟨neg, h⟩ <;> rw [h]

theorem C02_nonneg_rejects_nan_neginf (s : List Char)
    (h : Lex.parseFloat s = some .nan ∨ Lex.parseFloat s = some (.inf true)) :
    Lex.classNonNeg s = .reject := by
  unfold Lex.classNonNeg
  rcases h with h | h <;> rw [h] <;> rfl

/-- boundary values are inside the closed range whatever their spelling; values beyond it, NaN and the infinities are
    outside (kernel-evaluated instances) -/
theorem C02_boundaries_accepted :
    (["180", "-180", "180.0", "+180.000", "1.8e2", "18e1", "1800e-1", "0.18E3", "-0", "0"].all
        (fun s => Lex.classRange 180 s.toList == .accept)) = true ∧
    (["90", "-90", "90.", "9e1", "900e-1", "-0.9e2"].all (fun s => Lex.classRange 90 s.toList == .accept)) = true ∧
    (["180.0001", "-180.5", "181", "1e3", "1e400", "nan", "inf", "-inf", "NaN", "Infinity", "abc", ""].all
        (fun s => Lex.classRange 180 s.toList == .reject)) = true ∧
    (["0", "-0", "0.0", "1e-400", "inf"].all (fun s => Lex.classNonNeg s.toList == .accept)) = true ∧
    (["-1", "-0.000001", "-inf", "nan", "-1e400"].all (fun s => Lex.classNonNeg s.toList == .reject)) = true := by
  decide +kernel

/-- canonical integers are accepted: optional sign followed by ASCII digits -/
theorem C02_int_canonical (ds : List Char) (h : Lex.allDigits ds = true) :
    Lex.classInt ds = .accept ∧ Lex.classInt ('+' :: ds) = .accept ∧ Lex.classInt ('-' :: ds) = .accept := by
  -- a digit is not a sign, so nothing is stripped from `ds` itself
  have h0 : (Lex.stripSign ds).2 = ds := by
    unfold Lex.stripSign
    split
    · simp [Lex.allDigits, Lex.isDigit] at h
    · simp [Lex.allDigits, Lex.isDigit] at h
    · rfl
  refine ⟨?_, ?_, ?_⟩
  · rw [Lex.classInt, h0, h]
    rfl
  · simp only [Lex.classInt, Lex.stripSign, h]
    rfl
  · simp only [Lex.classInt, Lex.stripSign, h]
    rfl

/-- table side: the model's dispatch has an arm for exactly the content-rule names that have an arm in
    `Rule._validate_content` (list regenerated from the source on every run) -/
theorem C02_table_dispatch : (∀ x ∈ Gen.contentDispatch, x ∈ modelDispatch) ∧ (∀ x ∈ modelDispatch, x ∈ Gen.contentDispatch) := by
  decide +kernel

/-- hence a content-rule name is reported as UNKNOWN_CONTENT_RULE by the model exactly when the code has no arm for it -/
theorem C02_unknown_iff (L : Lexer) (M : Bool) (n : Nat) (c : Option String) (cr : String) :
    (.err .unknownContentRule) ∈ validateContentRule L M n c cr ↔ cr ∉ Gen.contentDispatch := by
  constructor
  · intro hm hin
    obtain ⟨k, hk, -, hu⟩ := vcr_kinds L M n c cr _ hm
    cases hk
    exact hu rfl (C02_table_dispatch.1 cr hin)
  · intro hn
    rw [vcr_unknown L M n c cr (fun h => hn (C02_table_dispatch.2 cr h))]
    exact List.mem_singleton.mpr rfl

/-- table side: every content rule a shipped rule uses is implemented -/
theorem C02_table_rules_use_implemented : ∀ r ∈ Gen.rules, ∀ cr ∈ r.contentRules, cr ∈ Gen.contentDispatch := by
  decide +kernel

end Metapype
